/-
  Generated step functions proved equal to the model's (`Gen/Steps/Resolve.lean`, regenerated from `src/cat.c` on every run):
  the sweep and the search of name resolution (`update_command`, `search_command`; T11): C02/C09.
-/
import CatVerif.Gen.Steps.Resolve
import CatVerif.Proofs.Steps.Basic
namespace Cat
open St

/-- the advance at the end of `update_command`, as the generated text has it -/
theorem adv_eq (D : Desc) (x : St) :
    updateAdvance D x =
      (let s : St := { x with index := x.index + 1 }
       let s : St := (if decide (s.index ≥ D.commandsNum) then (let s : St := { s with index := 0 }
          (let s : St := (if !s.implicitWriteFlag then (let s : St := { s with state := .parseCommandChar }
            s)
            else (let s : St := { s with cmdType := .write }
            (let s : St := prepareSearchCommand s
            (let s : St := { s with state := .searchCommand }
            (let s : St := { s with implicitWriteFlag := false }
            s)))))
          s))
          else s)
       s) := by
  cases h : x.implicitWriteFlag <;> simp [updateAdvance, h]

theorem updateCommand_generated (D : Desc) (s : St) :
    updateCommand D s = Gen.update_command D (s.chkUb (decide (s.index < D.commandsNum))) := by
  unfold updateCommand
  generalize s.chkUb (decide (s.index < D.commandsNum)) = s0
  dsimp only
  unfold Gen.update_command updateLane
  rcases getCmdState D s0 s0.index with ⟨s1, st⟩
  dsimp -zeta only
  congr 1
  -- The generated text is the advance, in the words of `adv_eq`, of the lane update; unifying with `adv_eq` finds the
  -- lane update in it, and the two lane updates differ only in how their tests are written. Taken apart like this the
  -- lane update is never copied into the advance.
  refine (congrArg (updateAdvance D) ?_).trans (adv_eq D _)
  simp

theorem searchCommand_generated (D : Desc) (s : St) :
    searchCommand D s = Gen.search_command D (s.chkUb (decide (s.index < D.commandsNum))) := by
  unfold searchCommand
  extract_lets +onlyGivenNames s0
  show _ = Gen.search_command D s0
  clear_value s0
  unfold Gen.search_command
  rcases getCmdState D s0 s0.index with ⟨s1, st⟩
  dsimp -zeta only
  by_cases h1 : st = 1
  · -- "last entry, and a match already": one test in the model, two in the generated text, which also forms the result
    -- pair once, around its `if`s, where the model forms it in each branch
    simp [h1, notFoundOrError, ite_and, apply_ite (fun x : St => (x, Gen.CAT_STATUS_BUSY))]
  · by_cases h2 : st = 2
    · simp [h2]
    · simp [h1, h2, notFoundOrError]

end Cat
