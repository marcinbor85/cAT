/-
  Differences of shape between the generated text and the model that recur in the proofs of `Proofs/Steps`.
  Those proofs have one plan: both sides have the same control structure, so after a case split on what it branches on
  `simp` brings the two sides of each case to the same term; where the generated text reads a field again from a later
  state, the lemma that the steps in between keep that field is given to `simp`.  One trap: a state computed first (a
  ghost check, a call's result) is given a name (`generalize`, `rcases`, `clear_value`) before the `let`s are expanded;
  expanded first it is copied into every field of every record update below it, and every later step walks all the copies.
-/
import CatVerif.Model.Fsm
namespace Cat

/-- the generated text tests `!ok` (`simp` writes it `ok = false`) where the model tests `ok` -/
theorem ite_eq_false_flip {α : Sort _} (b : Bool) (x y : α) :
    (if b = false then x else y) = if b = true then y else x := by
  cases b <;> rfl

/-- the generated text nests two `if`s where the model tests a conjunction -/
theorem ite_and {α : Sort _} (p q : Prop) [Decidable p] [Decidable q] (t e : α) :
    (if p ∧ q then t else e) = if p then (if q then t else e) else e := by
  by_cases p <;> simp [*]

theorem printAll_two (D : Desc) (s : St) (f : Fsm) (a b : List Byte) :
    printAll D s f [a, b] =
      if (printN D s f a).2 then printN D (printN D s f a).1 f b else ((printN D s f a).1, false) := by
  simp only [printAll]
  rcases printN D s f a with ⟨s1, _ | _⟩
  · rfl
  · rcases printN D s1 f b with ⟨s2, _ | _⟩ <;> rfl

end Cat
