/-
  Generated step functions proved equal to the model's (`Gen/Steps/Format.lean`, regenerated from `src/cat.c` on every run):
  `print_response_test`, `next_format_var_by_fsm` (T16), `format_read_args`, `format_test_args` (T17): C07/C08/C19.
-/
import CatVerif.Gen.Steps.Format
import CatVerif.Proofs.Step
import CatVerif.Proofs.Steps.Basic
namespace Cat
open St

theorem printResponseTest_generated (D : Desc) (s : St) (f : Fsm) :
    printResponseTest D s f = Gen.print_response_test D s f := by
  unfold printResponseTest Gen.print_response_test
  extract_lets +onlyGivenNames s1
  clear_value s1
  cases hd : (D.cmdD (s1.cmdOf f)).desc with
  | none => cases f <;> simp [hd, setStateTL]
  | some d =>
    rcases h1 : printN D s1 f (nlStr s1) with ⟨s2, _ | _⟩
    · simp [hd, printAll_two, h1]
    · cases f <;> simp [hd, printAll_two, h1, setStateTL]

theorem nextFormatVar_generated (D : Desc) (s : St) (f : Fsm) (h : (s.cmdOf f).isSome = true) :
    nextFormatVar D s f = Gen.next_format_var_by_fsm D s f := by
  cases f <;> simp only [St.cmdOf] at h <;>
    simp [nextFormatVar, Gen.next_format_var_by_fsm, St.chkUb, h, St.setIdx, St.idx, St.pos, St.setPos, Desc.capOf, St.cmdOf]

/-! The generated `format_*_args` look the command up again after each step; the model keeps the first look-up.
No step changes which command the machine is on. -/

theorem chkUb_cmdOf (s : St) (c : Bool) (f : Fsm) : (s.chkUb c).cmdOf f = s.cmdOf f := by cases c <;> cases f <;> rfl

theorem chkUb_idx (s : St) (c : Bool) (f : Fsm) : (s.chkUb c).idx f = s.idx f := by cases c <;> cases f <;> rfl

theorem formatTestArgs_generated (D : Desc) (s : St) (f : Fsm) : formatTestArgs D s f = Gen.format_test_args D s f := by
  unfold formatTestArgs Gen.format_test_args
  simp only [chkUb_cmdOf, chkUb_idx]

theorem formatReadArgs_generated (D : Desc) (s : St) (f : Fsm) (i : SvcIn) : formatReadArgs D s f i = Gen.format_read_args D s f i := by
  unfold formatReadArgs Gen.format_read_args
  simp only [chkUb_cmdOf, chkUb_idx]
  -- left: the look-up after `nextFormatVar`, in the branch where it reports no further variable and has only moved the
  -- variable cursor (`nextFormatVar_done`)
  generalize hs3 : (formatVar D _ f _).1 = s3
  have e3 : s3.cmdOf f = s.cmdOf f := by rw [← hs3]; cases f <;> simp [cmdOf]
  have e4 := nextFormatVar_done D s3 f
  generalize nextFormatVar D s3 f = n at e4 ⊢
  obtain ⟨s4, _ | _⟩ := n
  · have e : s4.cmdOf f = s.cmdOf f := by rw [show s4 = _ from e4 rfl, ← e3]; cases f <;> rfl
    cases f <;> simp [← e, setStateRL]
  · simp

end Cat
