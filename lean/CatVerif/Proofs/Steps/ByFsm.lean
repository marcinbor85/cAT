/-
  Generated step functions proved equal to the model's (`Gen/Steps/ByFsm.lean`, regenerated from `src/cat.c` on every run):
  the void helpers parameterised by the machine (T12): C07/C10/C19.
-/
import CatVerif.Gen.Steps.ByFsm
import CatVerif.Proofs.Steps.Basic
namespace Cat
open St

theorem endOk_generated (D : Desc) (s : St) (f : Fsm) : endOk D s f = Gen.end_processing_with_ok D s f := by
  cases f <;> rfl

theorem endError_generated (D : Desc) (s : St) (f : Fsm) : endError D s f = Gen.end_processing_with_error D s f := by
  cases f <;> rfl

theorem setPos_generated (D : Desc) (s : St) (f : Fsm) : s.setPos f 0 = Gen.reset_position D s f := by
  cases f <;> rfl

theorem startFormatRead_generated (D : Desc) (s : St) (f : Fsm) :
    startFormatRead D s f = Gen.start_processing_format_read_args D s f := by
  unfold startFormatRead Gen.start_processing_format_read_args
  extract_lets +onlyGivenNames s0 s1
  clear_value s1
  rcases h1 : printN D s1 f (D.cmdD (s1.cmdOf f)).name with ⟨s2, _ | _⟩
  · simp [printAll_two, h1]
  · cases f <;> simp [printAll_two, h1, setStateRL]

theorem startFormatTest_generated (D : Desc) (s : St) (f : Fsm) :
    startFormatTest D s f = Gen.start_processing_format_test_args D s f := by
  unfold startFormatTest Gen.start_processing_format_test_args
  extract_lets +onlyGivenNames s0 s1
  clear_value s1
  rcases h1 : printN D s1 f (D.cmdD (s1.cmdOf f)).name with ⟨s2, _ | _⟩
  · simp [printAll_two, h1]
  · cases f <;> simp [printAll_two, h1]

end Cat
