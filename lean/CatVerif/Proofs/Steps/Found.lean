/-
  Generated step functions proved equal to the model's (`Gen/Steps/Found.lean`, regenerated from `src/cat.c` on every run):
  the dispatch on the request type (`command_found`, `command_not_found`; T9): C02/C09. The model's ghost check "a command is selected where it is dereferenced" appears explicitly.
-/
import CatVerif.Gen.Steps.Found
namespace Cat
open St

theorem commandNotFound_generated (D : Desc) (s : St) : commandNotFound D s = Gen.command_not_found D s := by
  simp only [commandNotFound, Gen.command_not_found]

theorem commandFound_generated (D : Desc) (s : St) :
    commandFound D s = Gen.command_found D (s.chkUb s.cmd.isSome) := by
  unfold commandFound Gen.command_found
  generalize s.chkUb s.cmd.isSome = s0
  cases h : s0.cmdType <;> simp [h]

end Cat
