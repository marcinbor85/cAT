/-
  Generated step functions proved equal to the model's (`Gen/Steps/Output.lean`, regenerated from `src/cat.c` on every run):
  the two output steps `process_io_write` / `unsolicited_process_io_write` (T10): C11/C12.
-/
import CatVerif.Gen.Steps.Output
namespace Cat

theorem processIoWrite_generated : processIoWrite = Gen.process_io_write := by
  funext D s i; rfl

theorem unsolicitedProcessIoWrite_generated : unsolicitedProcessIoWrite = Gen.unsolicited_process_io_write := by
  funext D s i; rfl

end Cat
