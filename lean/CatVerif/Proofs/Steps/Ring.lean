/-
  Generated step functions proved equal to the model's (`Gen/Steps/Ring.lean`, regenerated from `src/cat.c` on every run):
  the ring of unsolicited events (T13): C13.
-/
import CatVerif.Gen.Steps.Ring
import CatVerif.Proofs.Frame
namespace Cat
open St

theorem pushUnsolicited_generated (D : Desc) (s : St) (c : Nat) (t : CmdType) :
    pushUnsolicited D s c t = Gen.push_unsolicited_cmd D s c t := by
  unfold pushUnsolicited Gen.push_unsolicited_cmd
  generalize s.chk (decide (s.rtail < D.cap)) = s1
  by_cases h : s1.rtail + 1 ≥ D.cap <;> simp [h]

theorem checkUnsolicitedBuffers_generated (D : Desc) (s : St) :
    checkUnsolicitedBuffers D s = Gen.check_unsolicited_buffers D s := by
  unfold checkUnsolicitedBuffers Gen.check_unsolicited_buffers Gen.pop_unsolicited_cmd ringPop ringFront
  by_cases he : Gen.is_unsolicited_buffer_empty s.rcount = true
  · simp [he, Gen.CAT_STATUS_ERROR_BUFFER_EMPTY, Gen.CAT_STATUS_OK]
  · by_cases h : s.rhead + 1 ≥ D.cap <;> simp [he, h, Gen.CAT_STATUS_OK]

end Cat
