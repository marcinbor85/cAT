/-
  Generated step functions proved equal to the model's (`Gen/Steps/Loops.lean`, regenerated from `src/cat.c` on every run):
  the four handler loops around the return-code tables (T19): C06/C10/C14.
-/
import CatVerif.Gen.Steps.Loops
namespace Cat
open St

theorem processWriteLoop_generated (D : Desc) (s : St) (i : SvcIn) :
    processWriteLoop D s i = Gen.process_write_loop_fn D s i := rfl

theorem processRunLoop_generated (D : Desc) (s : St) (i : SvcIn) :
    processRunLoop D s i = Gen.process_run_loop_fn D s i := rfl

theorem processReadLoop_generated (D : Desc) (s : St) (f : Fsm) (i : SvcIn) :
    processReadLoop D s f i = Gen.process_read_loop_fn D s f i := rfl

theorem processTestLoop_generated (D : Desc) (s : St) (f : Fsm) (i : SvcIn) :
    processTestLoop D s f i = Gen.process_test_loop_fn D s f i := rfl

end Cat
