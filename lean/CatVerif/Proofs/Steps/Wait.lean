/-
  Generated step functions proved equal to the model's (`Gen/Steps/Wait.lean`, regenerated from `src/cat.c` on every run):
  the two output-arbitration steps (`process_io_write_wait`, `unsolicited_process_io_write_wait`: a machine starts writing only while the other one is not — the exclusion of C11); translator item T9.
-/
import CatVerif.Gen.Steps.Wait
namespace Cat
open St

theorem processIoWriteWait_generated (D : Desc) (s : St) : processIoWriteWait s = Gen.process_io_write_wait D s := rfl

theorem unsolicitedProcessIoWriteWait_generated (D : Desc) (s : St) :
    unsolicitedProcessIoWriteWait s = Gen.unsolicited_process_io_write_wait D s :=
  rfl

end Cat
