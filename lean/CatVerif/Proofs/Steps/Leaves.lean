/-
  Translator item T22: the leaves with a direct transliteration (`Gen/Steps/Leaves.lean`, emitted when the bodies of the C
  functions still have the recorded canonical form): the two walks over the command groups (`get_command_by_index`,
  `is_command_disable`: an accumulator `j` in C, a subtraction in the model), `is_variables_access_possible`, the printing
  primitive `print_nstring_to_buf` with its by-machine helpers, the line-break choice `get_new_line_chars`,
  `get_command_by_fsm`.  The model's functions are proved equal to them.
-/
import CatVerif.Gen.Steps.Leaves
import CatVerif.Proofs.Frame
namespace Cat
open St

theorem walked_ge (j i n : Nat) (h : j ≤ i) : (i ≥ j + n) = (i - j ≥ n) := propext (by omega)

theorem getCommandByIndex_loop : ∀ (gs : List GroupD) (j i : Nat), j ≤ i →
    Gen.get_command_by_index_loop gs j i = cmdByIndex gs (i - j) := by
  intro gs
  induction gs with
  | nil => intro j i _; rfl
  | cons g gs ih =>
    intro j i h
    simp only [Gen.get_command_by_index_loop, cmdByIndex, walked_ge j i _ h]
    split
    · rw [ih _ _ (by omega), Nat.sub_add_eq]
    · rfl

theorem cmdByIndex_generated (D : Desc) (i : Nat) : cmdByIndex D.groups i = Gen.get_command_by_index D i := by
  unfold Gen.get_command_by_index
  rw [getCommandByIndex_loop _ 0 i (Nat.zero_le _)]; rfl

theorem isCommandDisable_loop : ∀ (gs : List GroupD) (j i : Nat), j ≤ i →
    Gen.is_command_disable_loop gs j i = disabledByIndex gs (i - j) := by
  intro gs
  induction gs with
  | nil => intro j i _; rfl
  | cons g gs ih =>
    intro j i h
    simp only [Gen.is_command_disable_loop, disabledByIndex, walked_ge j i _ h]
    split
    · rw [ih _ _ (by omega), Nat.sub_add_eq]
    · cases g.disable <;> simp
      cases g.cmds[i - j]? <;> simp

theorem disabledByIndex_generated (D : Desc) (i : Nat) : disabledByIndex D.groups i = Gen.is_command_disable D i := by
  unfold Gen.is_command_disable
  rw [isCommandDisable_loop _ 0 i (Nat.zero_le _)]; rfl

theorem varsAccessible_generated (c : CmdD) (a : Access) : varsAccessible c a = Gen.is_variables_access_possible c a := rfl

theorem nlOff_generated (s : St) : nlOff s = Gen.get_new_line_chars s := by
  unfold nlOff Gen.get_new_line_chars; cases s.crFlag <;> rfl

theorem cmdOf_generated (s : St) (f : Fsm) : s.cmdOf f = Gen.get_command_by_fsm s f := by cases f <;> rfl

theorem printN_generated (D : Desc) (s : St) (f : Fsm) (x : List Byte) : printN D s f x = Gen.print_nstring_to_buf D s f x := by
  unfold printN Gen.print_nstring_to_buf Gen.get_left_buffer_space_by_fsm Gen.move_position_by_fsm
  cases f <;> simp [St.pos, St.setPos, Desc.capOf]

end Cat
