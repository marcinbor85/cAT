/-
  Generated step functions proved equal to the model's (`Gen/Steps/Hold.lean`, regenerated from `src/cat.c` on every run):
  the release from HOLD (`process_hold_state`, T9) and `hold_exit` (T14): C14.
-/
import CatVerif.Gen.Steps.Hold
namespace Cat
open St

theorem processHoldState_generated (D : Desc) (s : St) : processHoldState D s = Gen.process_hold_state D s := by
  unfold processHoldState Gen.process_hold_state
  split <;> rfl

theorem holdExit_generated : holdExit = Gen.hold_exit := rfl

end Cat
