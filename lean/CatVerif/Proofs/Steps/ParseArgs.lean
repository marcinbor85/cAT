/-
  Generated step functions proved equal to the model's (`Gen/Steps/ParseArgs.lean`, regenerated from `src/cat.c` on every run):
  `parse_write_args` (T18): C04/C05/C08.
-/
import CatVerif.Gen.Steps.ParseArgs
import CatVerif.Proofs.Step
namespace Cat
open St

theorem parseWriteArgs_generated (D : Desc) (s : St) (i : SvcIn) : parseWriteArgs D s i = Gen.parse_write_args D s i := by
  unfold parseWriteArgs Gen.parse_write_args
  -- the generated text looks the command up again after the checks, the parse and the callback; the model keeps the first
  -- look-up: none of the three changes `cmd` (`parseVarValue_frame`, `varWriteCb_frame`)
  simp

end Cat
