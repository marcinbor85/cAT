/-
  Generated step functions proved equal to the model's (`Gen/Steps/Lanes.lean`, regenerated from `src/cat.c` on every run):
  the 2-bit lanes of `get_cmd_state` / `set_cmd_state` (T15): C02.
-/
import CatVerif.Gen.Steps.Lanes
namespace Cat
open St

theorem lane_index_generated (i : Nat) : i / 4 = Gen.get_cmd_state_index i ∧ i / 4 = Gen.set_cmd_state_index i := by
  simp [Gen.get_cmd_state_index, Gen.set_cmd_state_index, Nat.shiftRight_eq_div_pow]

theorem laneGet_generated (b i : Nat) (hb : b < 256) : laneGet b i = Gen.get_cmd_state_bits b i := by
  unfold laneGet Gen.get_cmd_state_bits
  have h4 : (2 : Nat) ^ ((i % 4) <<< 1) = 4 ^ (i % 4) := by rw [Nat.shiftLeft_eq, Nat.pow_mul']
  have hd : b / 4 ^ (i % 4) < 256 := Nat.lt_of_le_of_lt (Nat.div_le_self _ _) hb
  rw [Nat.shiftRight_eq_div_pow, h4, Nat.mod_eq_of_lt hd, Nat.and_two_pow_sub_one_eq_mod _ 2]
  omega

/-- the model's arithmetic on base-4 digits against the mask-and-shift of the source: a bounded format (byte, lane,
state), checked by evaluation -/
theorem laneSet_tab : ∀ b : Nat, b < 256 → ∀ r : Nat, r < 4 → ∀ v : Nat, v < 4 →
    (b - (b / 4 ^ r % 4) * 4 ^ r + v * 4 ^ r) % 256 =
      ((b &&& (255 - (3 <<< ((r <<< 1) % 256)))) % 256 ||| (v <<< ((r <<< 1) % 256))) % 256 := by
  decide +kernel

theorem laneSet_generated (b i v : Nat) (hb : b < 256) : laneSet b i v = Gen.set_cmd_state_bits b i v := by
  unfold laneSet Gen.set_cmd_state_bits
  rw [Nat.and_two_pow_sub_one_eq_mod v 2]
  exact laneSet_tab b hb (i % 4) (Nat.mod_lt _ (by decide)) (v % 4) (Nat.mod_lt _ (by decide))

end Cat
