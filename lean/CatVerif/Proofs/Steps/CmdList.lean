/-
  Generated step functions proved equal to the model's (`Gen/Steps/CmdList.lean`, regenerated from `src/cat.c` on every run):
  the command list: `start_print_cmd_list` (T14), `cmd_list_next_cmd`, `print_current_cmd_full_name`, `print_cmd_list` (T20): C10/C19.
-/
import CatVerif.Gen.Steps.CmdList
import CatVerif.Proofs.Frame
import CatVerif.Proofs.Steps.Basic
namespace Cat
open St

theorem startPrintCmdList_generated (D : Desc) (s : St) : startPrintCmdList D s = Gen.start_print_cmd_list D s := by
  simp [startPrintCmdList, Gen.start_print_cmd_list]

theorem cmdListNextCmd_generated (D : Desc) (s : St) : cmdListNextCmd D s = Gen.cmd_list_next_cmd D s := by
  simp [cmdListNextCmd, Gen.cmd_list_next_cmd]

theorem printCurrentCmdFullName_generated (D : Desc) (s : St) (x : List Byte) :
    printCurrentCmdFullName D s x = Gen.print_current_cmd_full_name D s x := by
  unfold printCurrentCmdFullName Gen.print_current_cmd_full_name
  -- The generated text reads the command's name and the line break from the state the earlier prints have left, the
  -- model from the state at the start: `printN` changes neither the command nor `crFlag` (`printN_frame`, a `simp` lemma).
  by_cases hl : s.length = 0
  · rcases h : printN D s .cmd (nlStr s) with ⟨s1, ok⟩
    have k : s1.cmd = s.cmd ∧ s1.crFlag = s.crFlag := by
      have e : s1 = (printN D s .cmd (nlStr s)).1 := by rw [h]
      simp [e]
    cases ok <;> simp [hl, printAll, nlStr, ite_eq_false_flip, k]
  · simp [hl, printAll, nlStr, ite_eq_false_flip]

theorem printCmdList_generated (D : Desc) (s : St) : printCmdList D s = Gen.print_cmd_list D s := by
  unfold printCmdList Gen.print_cmd_list
  extract_lets +onlyGivenNames s0 s1
  clear_value s1
  cases h : s1.cmdType <;> simp [h, printCmdForm, ite_eq_false_flip]

end Cat
