/-
  Generated step functions proved equal to the model's (`Gen/Steps/ReadChar.lean`, regenerated from `src/cat.c` on every run):
  `read_cmd_char` (T14): C01/C12.
-/
import CatVerif.Gen.Steps.ReadChar
namespace Cat
open St

theorem readCmdChar_generated : readCmdChar = Gen.read_cmd_char := by
  funext s i
  unfold readCmdChar Gen.read_cmd_char
  cases i.rd with
  | none => rfl
  | some b => dsimp only; split <;> rfl

end Cat
