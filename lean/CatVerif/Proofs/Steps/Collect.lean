/-
  Generated step functions proved equal to the model's (`Gen/Steps/Collect.lean`, regenerated from `src/cat.c` on every run):
  argument collection (`parse_command_args` after its guarded read; T11): C06.
-/
import CatVerif.Gen.Steps.Collect
import CatVerif.Proofs.Frame
import CatVerif.Proofs.Steps.Basic
namespace Cat
open St

theorem parseCommandArgs_generated (D : Desc) (s : St) (i : SvcIn) :
    parseCommandArgs D s i =
      (let r := readCmdChar s i
       if !r.2 then (r.1, Gen.CAT_STATUS_OK)
       else (Gen.parse_command_args_body D (r.1.chkUb r.1.cmd.isSome), Gen.CAT_STATUS_BUSY)) := by
  simp only []
  unfold parseCommandArgs
  rcases readCmdChar s i with ⟨s0, _ | _⟩
  · rfl
  · dsimp -zeta only
    generalize s0.chkUb s0.cmd.isSome = s1
    -- `?` as the first character: one conjunction of four tests in the model, two `if`s of two in the generated text
    simp [Gen.parse_command_args_body, ite_and]

end Cat
