/-
  The phases of name resolution composed: from the state right after `AT`, feeding the bytes of a
  command name one `cat_service` call at a time ends — after an explicitly bounded number of
  calls — in COMMAND_FOUND with the entry `Spec.resolve` selects for the typed name (or gives up),
  with the request type fixed by what follows the name.
-/
import CatVerif.Proofs.Resolve
namespace Cat
open St

/-- The command machine driven by an eager input queue: each call is offered the head of the queue, and
the byte is removed exactly when the machine was in a reading state (the only states in which it calls
`io->read`, `C12_only_readers_read`).  The other components of the call's inputs (`tmpl`: write
readiness, handler answers) are arbitrary. -/
def feed (D : Desc) (tmpl : SvcIn) : Nat → St → List Byte → St × List Byte
  | 0, s, bs => (s, bs)
  | n + 1, s, bs =>
    feed D tmpl n (commandService D s { tmpl with rd := bs.head? }).1 (if Reading s.state then bs.tail else bs)

theorem feed_add (D : Desc) (tmpl : SvcIn) (m n : Nat) : ∀ (s : St) (bs : List Byte),
    feed D tmpl (m + n) s bs = feed D tmpl n (feed D tmpl m s bs).1 (feed D tmpl m s bs).2 := by
  induction m with
  | zero => intro s bs; simp [feed]
  | succ m ih =>
    intro s bs
    rw [show m + 1 + n = (m + n) + 1 by omega]
    simp only [feed]
    exact ih _ _

theorem feed_read (D : Desc) (tmpl : SvcIn) (s : St) (b : Byte) (rest : List Byte) (h : Reading s.state) :
    feed D tmpl 1 s (b :: rest) = ((commandService D s { tmpl with rd := some b }).1, rest) := by
  simp only [feed, if_pos h, List.head?_cons, List.tail_cons]

theorem feed_quiet (D : Desc) (tmpl : SvcIn) (s : St) (bs : List Byte) (h : ¬ Reading s.state) :
    feed D tmpl 1 s bs = ((commandService D s { tmpl with rd := bs.head? }).1, bs) := by
  simp only [feed, if_neg h]

/-- a byte the parser accepts as part of a command name -/
def NameCh (b : Byte) : Prop :=
  isNameChar (toUpper b) = true ∧ toUpper b ≠ 10 ∧ toUpper b ≠ 13 ∧ toUpper b ≠ 63 ∧ toUpper b ≠ 61

theorem service_name_char (D : Desc) (s : St) (i : SvcIn) (b : Byte) (hs : s.state = .parseCommandChar)
    (hr : i.rd = some b) (hn : NameCh b) :
    let s' := (commandService D s i).1
    s'.state = .updateCommandState ∧ s'.length = s.length + 1 ∧ s'.currentChar = toUpper b ∧
    s'.buf = s.buf ∧ s'.index = s.index ∧ s'.cmdType = s.cmdType := by
  obtain ⟨h0, h1, h2, h3, h4⟩ := hn
  unfold commandService parseCommand readCmdChar
  simp [hs, hr, St.emit, h0, h1, h2, h3, h4]

theorem service_update (D : Desc) (s : St) (i : SvcIn) (hs : s.state = .updateCommandState) :
    (commandService D s i).1 = (updateCommand D s).1 := by
  unfold commandService; simp [hs]

theorem service_search (D : Desc) (s : St) (i : SvcIn) (hs : s.state = .searchCommand) :
    (commandService D s i).1 = (searchCommand D s).1 := by
  unfold commandService; simp [hs]

theorem service_lf (D : Desc) (s : St) (i : SvcIn) (hs : s.state = .parseCommandChar)
    (hr : i.rd = some 10) (hl : s.length ≠ 0) :
    let s' := (commandService D s i).1
    s'.state = .searchCommand ∧ s'.cmdType = s.cmdType ∧ s'.index = 0 ∧ s'.partialCntr = 0 ∧
    s'.cmd = none ∧ s'.buf = s.buf := by
  have t10 : toUpper 10 = 10 := by decide
  unfold commandService parseCommand readCmdChar
  simp [hs, hr, St.emit, t10, hl, prepareSearchCommand]

theorem service_query (D : Desc) (s : St) (i : SvcIn) (hs : s.state = .parseCommandChar)
    (hr : i.rd = some 63) (hl : s.length ≠ 0) :
    let s' := (commandService D s i).1
    s'.state = .waitReadAck ∧ s'.cmdType = .read ∧ s'.buf = s.buf := by
  have t63 : toUpper 63 = 63 := by decide
  unfold commandService parseCommand readCmdChar
  simp [hs, hr, St.emit, t63, hl]

theorem service_read_ack (D : Desc) (s : St) (i : SvcIn) (b : Byte) (hs : s.state = .waitReadAck) (hr : i.rd = some b) :
    let s' := (commandService D s i).1
    s'.cmdType = s.cmdType ∧ s'.buf = s.buf ∧
    (toUpper b = 10 → s'.state = .searchCommand ∧ s'.index = 0 ∧ s'.partialCntr = 0 ∧ s'.cmd = none) ∧
    (toUpper b ≠ 10 → toUpper b ≠ 13 → s'.state = .error) := by
  unfold commandService waitReadAcknowledge readCmdChar
  by_cases h10 : toUpper b = 10
  · simp [hs, hr, St.emit, prepareSearchCommand, h10]
  · by_cases h13 : toUpper b = 13 <;> simp [hs, hr, St.emit, h10, h13]

theorem service_eq (D : Desc) (s : St) (i : SvcIn) (hs : s.state = .parseCommandChar)
    (hr : i.rd = some 61) (hl : s.length ≠ 0) :
    let s' := (commandService D s i).1
    s'.state = .searchCommand ∧ s'.cmdType = .write ∧ s'.index = 0 ∧ s'.partialCntr = 0 ∧
    s'.cmd = none ∧ s'.buf = s.buf := by
  have t61 : toUpper 61 = 61 := by decide
  unfold commandService parseCommand readCmdChar
  simp [hs, hr, St.emit, t61, hl, prepareSearchCommand]

theorem feed_sweep (D : Desc) (tmpl : SvcIn) (s : St) (bs : List Byte)
    (hst : s.state = .updateCommandState)
    (hcap : D.commandsNum ≤ 4 * D.cmdCap) (hbuf : D.cmdCap ≤ s.buf.length) (hi0 : s.index = 0) :
    ∀ n, n ≤ D.commandsNum → feed D tmpl n s bs = (updateIter D n s, bs) := by
  intro n
  induction n with
  | zero => intro _; rfl
  | succ n ih =>
    intro hn
    have ⟨_, f, _⟩ := (updateIter_partial D s hcap hbuf hi0 n (by omega)).2 (by omega)
    have hs : (updateIter D n s).state = .updateCommandState := by rw [f, hst]
    rw [feed_add, ih (by omega), feed_quiet D tmpl _ _ (by rw [hs]; decide), service_update D _ _ hs]
    rfl

theorem feed_search (D : Desc) (tmpl : SvcIn) : ∀ (f : Nat) (s : St) (bs : List Byte),
    s.state = .searchCommand → ∃ m, m ≤ f ∧ feed D tmpl m s bs = (searchIter D f s, bs) := by
  intro f
  induction f with
  | zero => intro s bs _; exact ⟨0, Nat.le_refl _, rfl⟩
  | succ f ih =>
    intro s bs hst
    have h1 : feed D tmpl 1 s bs = ((searchCommand D s).1, bs) := by
      rw [feed_quiet D tmpl s bs (by rw [hst]; decide), service_search D s _ hst]
    simp only [searchIter, hst, if_true]
    by_cases hs1 : (searchCommand D s).1.state = .searchCommand
    · obtain ⟨m, hm, e⟩ := ih (searchCommand D s).1 bs hs1
      refine ⟨1 + m, by omega, ?_⟩
      rw [feed_add, h1]
      exact e
    · refine ⟨1, by omega, ?_⟩
      rw [h1, searchIter_stop D f _ hs1]

theorem snoc_ind {α : Type} {P : List α → Prop} (hnil : P []) (hsnoc : ∀ l a, P l → P (l ++ [a])) (l : List α) : P l := by
  rw [← l.reverse_reverse]
  induction l.reverse with
  | nil => exact hnil
  | cons a l ih => rw [List.reverse_cons]; exact hsnoc _ _ ih

/-- where the name phase stands after the bytes `p` have been taken from the queue -/
structure NameAt (D : Desc) (s0 s' : St) (p : List Byte) : Prop where
  lanes : Lanes D s' (p.map toUpper)
  index : s'.index = 0
  length : s'.length = p.length
  buflen : s'.buf.length = s0.buf.length

/-- **The name phase**, from the state after `AT`.  The bound is, for each character, one call to read it
and `commandsNum` for the sweep that follows.  The second case is an implicit-write command matched in
full by `p`: the search has started as a WRITE request and the remaining characters stay in the queue
as its argument text. -/
theorem feed_name (D : Desc) (tmpl : SvcIn) (s0 : St)
    (hcap : D.commandsNum ≤ 4 * D.cmdCap) (hbuf : D.cmdCap ≤ s0.buf.length) (hnum : 0 < D.commandsNum)
    (hst : s0.state = .parseCommandChar) (hl0 : Lanes D s0 []) (hlen : s0.length = 0) (hidx : s0.index = 0)
    (hct : s0.cmdType = .run) :
    ∀ (cs : List Byte), (∀ b ∈ cs, NameCh b) → ∀ (rest : List Byte),
    ∃ (n : Nat) (p q : List Byte) (s' : St), n ≤ cs.length * (D.commandsNum + 1) ∧ cs = p ++ q ∧
      feed D tmpl n s0 (cs ++ rest) = (s', q ++ rest) ∧ NameAt D s0 s' p ∧
      ((q = [] ∧ s'.state = .parseCommandChar ∧ s'.cmdType = .run) ∨
       (p ≠ [] ∧ s'.state = .searchCommand ∧ s'.cmdType = .write ∧ s'.partialCntr = 0 ∧ s'.cmd = none)) := by
  intro cs
  induction cs using snoc_ind with
  | hnil =>
    intro _ rest
    exact ⟨0, [], [], s0, by omega, rfl, rfl, ⟨hl0, hidx, hlen, rfl⟩, Or.inl ⟨rfl, hst, hct⟩⟩
  | hsnoc cs c ih =>
    intro hall rest
    obtain ⟨n, p, q, s1, hn, hpq, hf, hat, hcase⟩ := ih (fun b hb => hall b (by simp [hb])) (c :: rest)
    have hc : NameCh c := hall c (by simp)
    have hqr : cs ++ [c] ++ rest = cs ++ c :: rest := by simp
    have hbound : n + (1 + D.commandsNum) ≤ (cs ++ [c]).length * (D.commandsNum + 1) := by
      rw [List.length_append, List.length_singleton, Nat.add_mul]
      omega
    rcases hcase with ⟨hq, hs1, hct1⟩ | hB
    · -- all of cs taken: read c, then sweep
      subst hq
      simp only [List.append_nil] at hpq
      subst hpq
      have hstep := feed_read D tmpl s1 c rest (by rw [hs1]; decide)
      have ⟨r1, r2, r3, r4, r5, r6⟩ := service_name_char D s1 { tmpl with rd := some c } c hs1 rfl hc
      generalize (commandService D s1 { tmpl with rd := some c }).1 = s2 at hstep r1 r2 r3 r4 r5 r6
      have hl2 : Lanes D s2 (cs.map toUpper) := hat.lanes.congr r4
      have hb2 : D.cmdCap ≤ s2.buf.length := by rw [r4, hat.buflen]; exact hbuf
      have hlen2 : s2.length = (cs.map toUpper).length + 1 := by rw [r2, hat.length, List.length_map]
      have hi2 : s2.index = 0 := by rw [r5, hat.index]
      have hsw := feed_sweep D tmpl s2 rest r1 hcap hb2 hi2 D.commandsNum (Nat.le_refl _)
      have ⟨t1, t2, t3, t4, t5⟩ := sweep_total D (cs.map toUpper) (toUpper c) s2 hcap hb2 hnum hlen2 r3 hi2 hl2
      refine ⟨n + (1 + D.commandsNum), cs ++ [c], [], updateIter D D.commandsNum s2, hbound, by simp, ?_, ?_, ?_⟩
      · rw [feed_add, hqr, hf]
        simp only [List.nil_append]
        rw [feed_add, hstep]
        exact hsw
      · refine ⟨?_, t2, ?_, ?_⟩
        · simpa using t1
        · rw [t3, hlen2]; simp
        · rw [t4, r4, hat.buflen]
      · rcases t5 with t5 | t5
        · left; exact ⟨rfl, t5.1, by rw [t5.2, r6, hct1]⟩
        · right; exact ⟨by simp, t5⟩
    · -- an implicit-write command was matched earlier: c stays in the queue
      refine ⟨n, p, q ++ [c], s1, by omega, by rw [hpq]; simp, ?_, hat, Or.inr hB⟩
      rw [hqr, hf]; simp

/-- what may follow the name, and the request type it selects: LF — RUN; `?` LF — READ; `=` — WRITE
(the argument text follows; `=?` becomes TEST later, in PARSE_COMMAND_ARGS: `C02_suffix_test`) -/
def Suffix (sfx : List Byte) (typ : CmdType) : Prop :=
  (sfx = [10] ∧ typ = .run) ∨ (sfx = [63, 10] ∧ typ = .read) ∨ (sfx = [61] ∧ typ = .write)

theorem feed_suffix (D : Desc) (tmpl : SvcIn) (s1 : St) (sfx : List Byte) (typ : CmdType) (rest : List Byte)
    (hs1 : s1.state = .parseCommandChar) (hl1 : s1.length ≠ 0) (hct1 : s1.cmdType = .run) (h : Suffix sfx typ) :
    ∃ s2 : St, feed D tmpl sfx.length s1 (sfx ++ rest) = (s2, rest) ∧
      s2.state = .searchCommand ∧ s2.cmdType = typ ∧ s2.index = 0 ∧ s2.partialCntr = 0 ∧ s2.cmd = none ∧ s2.buf = s1.buf := by
  have hr : Reading s1.state := by rw [hs1]; decide
  rcases h with ⟨rfl, rfl⟩ | ⟨rfl, rfl⟩ | ⟨rfl, rfl⟩
  · have ⟨a, b, c⟩ := service_lf D s1 { tmpl with rd := some 10 } hs1 rfl hl1
    exact ⟨_, feed_read D tmpl s1 10 rest hr, a, b.trans hct1, c⟩
  · have h1 := feed_read D tmpl s1 63 (10 :: rest) hr
    have ⟨a1, b1, c1⟩ := service_query D s1 { tmpl with rd := some 63 } hs1 rfl hl1
    generalize (commandService D s1 { tmpl with rd := some 63 }).1 = sa at h1 a1 b1 c1
    have ⟨a2, b2, c2, _⟩ := service_read_ack D sa { tmpl with rd := some 10 } 10 a1 rfl
    have ⟨d1, d2, d3, d4⟩ := c2 (by decide)
    refine ⟨_, ?_, d1, a2.trans b1, d2, d3, d4, b2.trans c1⟩
    rw [show [63, 10].length = 1 + 1 from rfl, feed_add]
    simp only [List.cons_append, List.nil_append]
    rw [h1]
    exact feed_read D tmpl sa 10 rest (by rw [a1]; decide)
  · exact ⟨_, feed_read D tmpl s1 61 rest hr, service_eq D s1 { tmpl with rd := some 61 } hs1 rfl hl1⟩

/-- **From `AT` to COMMAND_FOUND, for RUN, READ and WRITE requests.**  The bound counts the calls of the
name phase, one per suffix byte and `commandsNum` for the search.  Either `p` is the whole name, the suffix
has been taken too and the request has its type; or an implicit-write command was matched in full by `p`,
the request is WRITE and the rest of the line is still in the queue. -/
theorem feed_resolves (D : Desc) (tmpl : SvcIn) (s0 : St)
    (hcap : D.commandsNum ≤ 4 * D.cmdCap) (hbuf : D.cmdCap ≤ s0.buf.length) (hnum : 0 < D.commandsNum)
    (hst : s0.state = .parseCommandChar) (hl0 : Lanes D s0 []) (hlen : s0.length = 0) (hidx : s0.index = 0)
    (hct : s0.cmdType = .run)
    (cs : List Byte) (hne : cs ≠ []) (hall : ∀ b ∈ cs, NameCh b) (sfx : List Byte) (typ : CmdType) (hsfx : Suffix sfx typ)
    (rest : List Byte) :
    ∃ (n : Nat) (p q : List Byte) (s' : St),
      n ≤ cs.length * (D.commandsNum + 1) + sfx.length + D.commandsNum ∧ cs = p ++ q ∧ p ≠ [] ∧
      ((q = [] ∧ feed D tmpl n s0 (cs ++ (sfx ++ rest)) = (s', rest) ∧ s'.cmdType = typ) ∨
       (feed D tmpl n s0 (cs ++ (sfx ++ rest)) = (s', q ++ (sfx ++ rest)) ∧ s'.cmdType = .write)) ∧
      (∀ j, Spec.resolve (Spec.lane D (p.map toUpper)) D.commandsNum = some j →
          s'.state = .commandFound ∧ s'.cmd = some j) ∧
      (Spec.resolve (Spec.lane D (p.map toUpper)) D.commandsNum = none → NotFound s') := by
  obtain ⟨n, p, q, s1, hn, hpq, hf, hat, hcase⟩ :=
    feed_name D tmpl s0 hcap hbuf hnum hst hl0 hlen hidx hct cs hall (sfx ++ rest)
  rcases hcase with ⟨hq, hs1, hct1⟩ | ⟨hp, hs1, hct1, hpc, hcmd⟩
  · -- the whole name was taken: the suffix, then the search
    subst hq
    simp only [List.append_nil] at hpq
    subst hpq
    have hl1 : s1.length ≠ 0 := by
      rw [hat.length]; exact fun h => hne (List.length_eq_zero_iff.mp h)
    obtain ⟨s2, hfk, e1, e6, e2, e3, e4, e5⟩ := feed_suffix D tmpl s1 sfx typ rest hs1 hl1 hct1 hsfx
    have hl2 : Lanes D s2 (cs.map toUpper) := hat.lanes.congr e5
    obtain ⟨m, hm, hfs⟩ := feed_search D tmpl D.commandsNum s2 rest e1
    have ⟨u1, _, u3, u4⟩ := search_total D (cs.map toUpper) s2 hnum e1 e2 e3 e4 hl2
    refine ⟨n + (sfx.length + m), cs, [], searchIter D D.commandsNum s2, by omega, by simp, hne, ?_, u3, u4⟩
    left
    refine ⟨rfl, ?_, by rw [u1, e6]⟩
    rw [feed_add, hf]
    simp only [List.nil_append]
    rw [feed_add, hfk]
    exact hfs
  · -- implicit write: the search runs on the prefix, nothing more is taken
    obtain ⟨m, hm, hfs⟩ := feed_search D tmpl D.commandsNum s1 (q ++ (sfx ++ rest)) hs1
    have ⟨u1, _, u3, u4⟩ := search_total D (p.map toUpper) s1 hnum hs1 hat.index hpc hcmd hat.lanes
    refine ⟨n + m, p, q, searchIter D D.commandsNum s1, by omega, hpq, hp, ?_, u3, u4⟩
    right
    refine ⟨?_, by rw [u1, hct1]⟩
    rw [feed_add, hf]
    exact hfs

theorem Suffix.length_le {sfx : List Byte} {typ : CmdType} (h : Suffix sfx typ) : 1 ≤ sfx.length ∧ sfx.length ≤ 2 := by
  rcases h with ⟨rfl, _⟩ | ⟨rfl, _⟩ | ⟨rfl, _⟩ <;> decide

theorem feed_request (D : Desc) (tmpl : SvcIn) (s0 : St)
    (hcap : D.commandsNum ≤ 4 * D.cmdCap) (hbuf : D.cmdCap ≤ s0.buf.length) (hnum : 0 < D.commandsNum)
    (hst : s0.state = .parseCommandChar) (hl0 : Lanes D s0 []) (hlen : s0.length = 0) (hidx : s0.index = 0)
    (hct : s0.cmdType = .run)
    (cs : List Byte) (hne : cs ≠ []) (hall : ∀ b ∈ cs, NameCh b) (sfx : List Byte) (typ : CmdType) (hsfx : Suffix sfx typ)
    (rest : List Byte) :
    ∃ (n : Nat) (p q : List Byte) (s' : St), n ≤ (cs.length + 1) * (D.commandsNum + 1) + 1 ∧ cs = p ++ q ∧ p ≠ [] ∧
      ((q = [] ∧ feed D tmpl n s0 (cs ++ (sfx ++ rest)) = (s', rest) ∧ s'.cmdType = typ) ∨
       (feed D tmpl n s0 (cs ++ (sfx ++ rest)) = (s', q ++ (sfx ++ rest)) ∧ s'.cmdType = .write)) ∧
      (∀ j, Spec.resolve (Spec.lane D (p.map toUpper)) D.commandsNum = some j →
          s'.state = .commandFound ∧ s'.cmd = some j) ∧
      (Spec.resolve (Spec.lane D (p.map toUpper)) D.commandsNum = none → NotFound s') := by
  obtain ⟨n, p, q, s', hn, h⟩ := feed_resolves D tmpl s0 hcap hbuf hnum hst hl0 hlen hidx hct cs hne hall sfx typ hsfx rest
  refine ⟨n, p, q, s', ?_, h⟩
  have := hsfx.length_le
  rw [Nat.add_mul]
  omega

theorem feed_line (D : Desc) (tmpl : SvcIn) (s0 : St)
    (hcap : D.commandsNum ≤ 4 * D.cmdCap) (hbuf : D.cmdCap ≤ s0.buf.length) (hnum : 0 < D.commandsNum)
    (hst : s0.state = .parseCommandChar) (hl0 : Lanes D s0 []) (hlen : s0.length = 0) (hidx : s0.index = 0)
    (hct : s0.cmdType = .run)
    (cs : List Byte) (hne : cs ≠ []) (hall : ∀ b ∈ cs, NameCh b) (rest : List Byte) :
    ∃ (n : Nat) (p q : List Byte) (s' : St), n ≤ (cs.length + 1) * (D.commandsNum + 1) ∧ cs = p ++ q ∧ p ≠ [] ∧
      ((q = [] ∧ feed D tmpl n s0 (cs ++ 10 :: rest) = (s', rest) ∧ s'.cmdType = .run) ∨
       (feed D tmpl n s0 (cs ++ 10 :: rest) = (s', q ++ 10 :: rest) ∧ s'.cmdType = .write)) ∧
      (∀ j, Spec.resolve (Spec.lane D (p.map toUpper)) D.commandsNum = some j →
          s'.state = .commandFound ∧ s'.cmd = some j) ∧
      (Spec.resolve (Spec.lane D (p.map toUpper)) D.commandsNum = none → NotFound s') := by
  obtain ⟨n, p, q, s', hn, h⟩ := feed_resolves D tmpl s0 hcap hbuf hnum hst hl0 hlen hidx hct cs hne hall
    [10] .run (Or.inl ⟨rfl, rfl⟩) rest
  refine ⟨n, p, q, s', ?_, h⟩
  rw [Nat.add_mul]
  simp only [List.length_cons, List.length_nil] at hn
  omega

theorem feed_at (D : Desc) (tmpl : SvcIn) (s : St) (a t : Byte) (rest : List Byte)
    (hs : s.state = .idle) (ha : toUpper a = 65) (ht : toUpper t = 84)
    (hcap : D.commandsNum ≤ 4 * D.cmdCap) (hbuf : D.cmdCap ≤ s.buf.length) :
    let s' := (feed D tmpl 2 s (a :: t :: rest)).1
    (feed D tmpl 2 s (a :: t :: rest)).2 = rest ∧ s'.state = .parseCommandChar ∧ Lanes D s' [] ∧
    s'.length = 0 ∧ s'.index = 0 ∧ s'.cmdType = .run ∧ s'.buf.length = s.buf.length := by
  obtain ⟨s1, h1, e1, b1⟩ : ∃ s1, feed D tmpl 1 s (a :: t :: rest) = (s1, t :: rest) ∧
      s1.state = .parsePrefix ∧ s1.buf = s.buf := by
    refine ⟨_, feed_read D tmpl s a _ (by rw [hs]; decide), ?_, ?_⟩ <;>
      simp [commandService, processIdleState, readCmdChar, hs, St.emit, ha]
  obtain ⟨s2, h2, b2⟩ : ∃ s2, feed D tmpl 1 s1 (t :: rest) =
      ({ prepareParseCommand D s2 with state := .parseCommandChar }, rest) ∧ s2.buf = s1.buf := by
    refine ⟨{ s1.emit (.rd (some t)) with currentChar := 84 }, ?_, rfl⟩
    rw [feed_read D tmpl s1 t _ (by rw [e1]; decide)]
    simp [commandService, parsePrefix, readCmdChar, e1, St.emit, ht]
  have hl := prepareParseCommand_lanes D s2 hcap (by rw [b2, b1]; exact hbuf)
  rw [show (2 : Nat) = 1 + 1 from rfl, feed_add, h1, h2]
  refine ⟨rfl, rfl, hl.congr (by rfl), ?_⟩
  simp [prepareParseCommand, b2, b1]

end Cat
