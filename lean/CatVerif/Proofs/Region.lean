/-
  Region separation (C03) for single helpers of the command machine that store nothing at all; for whole steps
  see `commandService_keepsUR` and `unsolicitedEventsService_keepsCR`.
-/
import CatVerif.Proofs.Step
namespace Cat
open St

theorem setIdx_buf (s : St) (f : Fsm) (n : Nat) : SameBuf s (s.setIdx f n) := by simp

theorem startFlush_cmd_UR (s : St) (a : After) : KeepsUR D s (startFlush s .cmd a) := by simp
theorem startFlushRaw_UR (s : St) (a : After) : KeepsUR D s (startFlushRaw s a) := by simp
theorem resetState_UR (s : St) : KeepsUR D s (resetState s) := by simp
theorem enableHoldState_UR (s : St) : KeepsUR D s (enableHoldState s) := by simp
theorem prepareSearchCommand_UR (s : St) : KeepsUR D s (prepareSearchCommand s) := by simp
theorem notFoundOrError_UR (s : St) : KeepsUR D s (notFoundOrError s) := by simp
theorem setStateRL_cmd_UR (s : St) : KeepsUR D s (setStateRL s .cmd) := by simp
theorem setStateTL_cmd_UR (s : St) : KeepsUR D s (setStateTL s .cmd) := by simp
theorem processIdleState_UR (s : St) (i : SvcIn) : KeepsUR D s (processIdleState s i).1 := by simp
theorem waitReadAcknowledge_UR (s : St) (i : SvcIn) : KeepsUR D s (waitReadAcknowledge s i).1 := by simp
theorem processIoWriteWait_UR (s : St) : KeepsUR D s (processIoWriteWait s).1 := by simp

end Cat
