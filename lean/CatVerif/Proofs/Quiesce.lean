/-
  When `cat_service` reports OK, and what a call does when its only io attempt is refused.
-/
import CatVerif.Proofs.Hold
namespace Cat
open St

/-- **Refused read**: in a reading state, when `io->read` delivers nothing, the step changes nothing
but logging the refusal, and reports OK. -/
theorem read_refused (D : Desc) (s : St) (i : SvcIn) (hr : Reading s.state) (hi : i.rd = none) :
    commandService D s i = (s.emit (.rd none), Gen.CAT_STATUS_OK) := by
  rw [commandService_reader i hr]; simp only [reader, hi]

theorem commandService_no_read (D : Desc) (s : St) (i : SvcIn) (hr : ¬ Reading s.state)
    (hv : ApiFree .rd i.vc.acts) (hh : ApiFree .rd i.hc.acts) : Quiet .rd s (commandService D s i).1 :=
  commandService_logs .rd D s i (by revert hr; cases s.state <;> decide) hv hh

theorem commandService_ret (D : Desc) (s : St) (i : SvcIn) :
    (commandService D s i).2 = (if Reading s.state ∧ i.rd = none then Gen.CAT_STATUS_OK else Gen.CAT_STATUS_BUSY) := by
  by_cases hr : Reading s.state
  · rw [commandService_reader i hr]
    unfold reader
    cases i.rd <;> simp [hr]
  · -- every other function ends each of its branches with BUSY
    rw [if_neg (fun h => hr h.1)]
    unfold commandService
    cases hs : s.state <;>
      simp only [updateCommand, searchCommand, commandFound, commandNotFound, parseWriteArgs, formatReadArgs,
        formatTestArgs, processWriteLoop_eq, processReadLoop_eq, processTestLoop_eq, processRunLoop_eq, processHoldState,
        processIoWriteWait, processIoWrite, apply_ite Prod.snd, ite_self]
    all_goals exact absurd (by simp [Reading, hs]) hr

theorem unsolicitedEventsService_ret (D : Desc) (s : St) (i : SvcIn) :
    (unsolicitedEventsService D s i).2 = (if s.ustate = .idle then Gen.CAT_STATUS_OK else Gen.CAT_STATUS_BUSY) := by
  unfold unsolicitedEventsService
  cases s.ustate <;>
    simp only [reduceCtorEq, if_false, if_true, formatReadArgs, formatTestArgs, processReadLoop_eq, processTestLoop_eq,
      unsolicitedProcessIoWriteWait, unsolicitedProcessIoWrite, apply_ite Prod.snd, ite_self]

theorem unsolicitedEventsService_rest (D : Desc) (s : St) (i : SvcIn) (hu : s.ustate = .idle) (hc : s.rcount = 0) :
    unsolicitedEventsService D s i = (s, Gen.CAT_STATUS_OK) := by
  simp [unsolicitedEventsService, hu, checkUnsolicitedBuffers, Gen.is_unsolicited_buffer_empty, hc]

theorem CState.code_idle (a : CState) : a.code = Gen.CAT_STATE_IDLE ↔ a = .idle := by cases a <;> decide
theorem UState.code_idle (b : UState) : b.code = Gen.CAT_UNSOLICITED_STATE_IDLE ↔ b = .idle := by cases b <;> decide

/-- `cat_service` lets the command machine's result stand exactly when the unsolicited machine reported OK and is idle with
nothing queued -/
theorem service_merge_false (us : Int) (b : UState) (n : Nat) :
    Gen.service_merge us b.code n = false ↔ us = Gen.CAT_STATUS_OK ∧ b = .idle ∧ n = 0 := by
  simp [Gen.service_merge, Gen.is_unsolicited_fsm_busy, Gen.is_unsolicited_buffer_empty, UState.code_idle, and_assoc]

/-- nothing to do for either machine without a new stimulus -/
def Quiescent (s : St) : Prop := s.ustate = .idle ∧ s.rcount = 0 ∧ Reading s.state

/-- **OK means quiescent**: if the body of `cat_service` reports OK then afterwards the unsolicited
machine is idle with an empty queue and the command machine is waiting for input. -/
theorem serviceBody_ok_quiescent (D : Desc) (s : St) (i : SvcIn) (h : (serviceBody D s i).2 = Gen.CAT_STATUS_OK) :
    Quiescent (serviceBody D s i).1 := by
  unfold serviceBody at h ⊢
  simp only at h ⊢
  generalize unsolicitedEventsService D s i = r1 at h ⊢
  split at h
  · cases h
  · rename_i hm
    -- the command step reported OK: it was a refused read, so the state is still a reading state
    rw [commandService_ret D r1.1 i] at h
    split at h
    · rename_i hrd
      rw [read_refused D r1.1 i hrd.1 hrd.2] at hm ⊢
      obtain ⟨_, hu, hc⟩ := (service_merge_false _ _ _).1 (by simpa using hm)
      exact ⟨hu, hc, hrd.1⟩
    · cases h

/-- **Quiescence is stable**: from a quiescent state a further call without a deliverable input byte
reports OK again, performs no write, invokes no callback and leaves the state as it was (only the
refused read is logged). -/
theorem serviceBody_quiescent_repeat (D : Desc) (s : St) (i : SvcIn) (h : Quiescent s) (hi : i.rd = none) :
    serviceBody D s i = (s.emit (.rd none), Gen.CAT_STATUS_OK) := by
  obtain ⟨hu, hc, hr⟩ := h
  unfold serviceBody
  simp only [unsolicitedEventsService_rest D s i hu hc, read_refused D s i hr hi]
  rw [if_neg (by rw [Bool.not_eq_true]; exact (service_merge_false _ _ _).2 ⟨rfl, hu, hc⟩)]

theorem service_ok_quiescent (D : Desc) (s : St) (i : SvcIn) (h : (service D s i).2 = Gen.CAT_STATUS_OK) :
    Quiescent (service D s i).1 := by
  refine withMutex_cases (motive := fun r => r.2 = Gen.CAT_STATUS_OK → Quiescent r.1) D s i.lock i.unlock _
    (serviceBody_ok_quiescent D s i) (fun _ h => by simp [Gen.CAT_STATUS_ERROR_MUTEX_LOCK, Gen.CAT_STATUS_OK] at h) (fun _ h => ?_) h
  -- the bracket reports OK only if the unlock succeeded and the body reported OK
  split at h
  · simp [Gen.CAT_STATUS_ERROR_MUTEX_UNLOCK, Gen.CAT_STATUS_OK] at h
  · simpa [Quiescent, St.emit] using serviceBody_ok_quiescent D _ i h

theorem service_rest_stays (D : Desc) (s : St) (i : SvcIn) (q : Quiescent s) (hi : i.rd = none) : Quiescent (service D s i).1 :=
  withMutex_inv (P := Quiescent) (Q := Quiescent) D s i.lock i.unlock _ (fun _ h => h) (fun _ _ h => h) (fun _ _ h => h)
    (fun a h => by rw [serviceBody_quiescent_repeat D a i h hi]; exact h) q

/-- **Refused write**: in FLUSH_IO_WRITE, when `io->write` refuses the byte, the step changes nothing
but logging the refusal; the same byte is offered again by the next call. -/
theorem write_refused (D : Desc) (s : St) (i : SvcIn) (hs : s.state = .flushWrite) (hw : i.wr = false)
    (hb : (writeByte D s .cmd).1 ≠ 0) :
    commandService D s i =
      ((s.chk (writeByte D s .cmd).2).emit (.wr .cmd (writeByte D s .cmd).1 false (unitPart s.writeState s.writeSrc)),
       Gen.CAT_STATUS_BUSY) := by
  simp [commandService, hs, processIoWrite, hw, hb]

theorem write_refused_uns (D : Desc) (s : St) (i : SvcIn) (hs : s.ustate = .flushWrite) (hw : i.wr = false)
    (hb : (writeByte D s .uns).1 ≠ 0) :
    unsolicitedEventsService D s i =
      ((s.chk (writeByte D s .uns).2).emit (.wr .uns (writeByte D s .uns).1 false (unitPart s.uwriteState s.uwriteSrc)),
       Gen.CAT_STATUS_BUSY) := by
  simp [unsolicitedEventsService, hs, unsolicitedProcessIoWrite, hw, hb]

end Cat
