/-
  Schedule independence of the command machine (C12, event-free traffic).  A schedule decides, call by
  call, whether the next input byte is offered and whether the output accepts.  Every call under a
  schedule is a pure refusal, logged and otherwise without effect, or the call the eager schedule
  (always offer, always accept) makes in the same state (`slot_step`); hence a run under any schedule
  reaches the state of an eager run with the same events other than refusals (`runS_eager`).  Handler
  answers are constant (`tmpl`), as in the twin oracle.
-/
import CatVerif.Proofs.Quiesce
import CatVerif.Proofs.Stutter
namespace Cat
open St

/-- what a step of the command machine sees of the inputs of its call -/
theorem commandService_io (D : Desc) (s : St) (i j : SvcIn) (hh : j.hc = i.hc) (hv : j.vc = i.vc)
    (hr : Reading s.state → j.rd = i.rd) (hw : s.state = .flushWrite → (writeByte D s .cmd).1 ≠ 0 → j.wr = i.wr) :
    commandService D s j = commandService D s i := by
  by_cases h : Reading s.state
  · rw [commandService_reader j h, commandService_reader i h, reader, reader, hr h]
  -- state by state: a function that is not given the inputs leaves nothing to prove, each of the others reads one of them
  unfold commandService
  cases hs : s.state <;> simp only
  case parseWriteArgs => unfold parseWriteArgs varWriteCb; rw [hv]
  case formatReadArgs => unfold formatReadArgs varReadCb; rw [hv]
  case writeLoop => unfold processWriteLoop; rw [hh]
  case readLoop => unfold processReadLoop; rw [hh]
  case testLoop => unfold processTestLoop; rw [hh]
  case runLoop => unfold processRunLoop; rw [hh]
  case flushWrite =>
    unfold processIoWrite
    by_cases hz : (writeByte D s .cmd).1 = 0
    · simp only [if_pos (beq_iff_eq.2 hz)]
    · rw [hw hs hz]
  all_goals exact absurd (by simp [Reading, hs]) h

theorem unsolicitedEventsService_rd_irrelevant (D : Desc) (s : St) (i : SvcIn) (x y : Option Byte) :
    unsolicitedEventsService D s { i with rd := x } = unsolicitedEventsService D s { i with rd := y } := by
  unfold unsolicitedEventsService
  cases s.ustate <;> rfl

theorem unsolicitedEventsService_wr_irrelevant (D : Desc) (s : St) (i : SvcIn) (a b : Bool) (hw : s.ustate ≠ .flushWrite) :
    unsolicitedEventsService D s { i with wr := a } = unsolicitedEventsService D s { i with wr := b } := by
  unfold unsolicitedEventsService
  cases hs : s.ustate <;> first | exact absurd hs hw | rfl

structure Slot where
  offer : Bool
  accept : Bool

def eager : Slot := ⟨true, true⟩

/-- the inputs of a call: constant handler answers, readiness from the schedule -/
def slotIn (tmpl : SvcIn) (q : List Byte) (sl : Slot) : SvcIn :=
  { tmpl with rd := if sl.offer then q.head? else none, wr := sl.accept }

/-- a refused output byte whose fetch lies outside its object would raise the fault flag (C03 shows
it never happens from `cat_init`; here it is a side condition of the run) -/
def fetchOk (D : Desc) (s : St) (sl : Slot) : Bool :=
  !(s.state == .flushWrite && !sl.accept && (writeByte D s .cmd).1 != 0 && !(writeByte D s .cmd).2)

/-- the command machine under a schedule: final state, input left over, the log of every call, and
whether every refused fetch was in bounds -/
def runS (D : Desc) (tmpl : SvcIn) : St → List Byte → List Slot → St × List Byte × List (List Ev) × Bool
  | s, q, [] => (s, q, [], true)
  | s, q, sl :: r =>
    let s0 : St := { s with log := [] }
    let i := slotIn tmpl q sl
    let s1 := (commandService D s0 i).1
    let q1 := if Reading s.state ∧ i.rd.isSome then q.tail else q
    let rest := runS D tmpl s1 q1 r
    (rest.1, rest.2.1, s1.log :: rest.2.2.1, fetchOk D s sl && rest.2.2.2)

def isRefusal : Ev → Bool
  | .rd none => true
  | .wr _ _ false _ => true
  | _ => false

def realEvents (ls : List (List Ev)) : List Ev := ls.flatten.filter (fun e => !isRefusal e)

/-- **One call under a schedule**: a pure refusal, or the eager schedule's call. -/
theorem slot_step (D : Desc) (tmpl : SvcIn) (s : St) (q : List Byte) (sl : Slot) (hs0 : s.log = []) (hf : fetchOk D s sl = true) :
    ((∃ e, isRefusal e = true ∧ (commandService D s (slotIn tmpl q sl)).1 = { s with log := [e] }) ∧
      ¬ (Reading s.state ∧ (slotIn tmpl q sl).rd.isSome)) ∨
    (commandService D s (slotIn tmpl q sl) = commandService D s (slotIn tmpl q eager) ∧
      ((Reading s.state ∧ (slotIn tmpl q sl).rd.isSome) ↔ (Reading s.state ∧ (slotIn tmpl q eager).rd.isSome))) := by
  by_cases h1 : Reading s.state ∧ sl.offer = false
  · have hi : (slotIn tmpl q sl).rd = none := by simp [slotIn, h1.2]
    refine .inl ⟨⟨.rd none, rfl, ?_⟩, by simp [hi]⟩
    rw [read_refused D s _ h1.1 hi, St.emit, hs0]; rfl
  by_cases h2 : s.state = .flushWrite ∧ sl.accept = false ∧ (writeByte D s .cmd).1 ≠ 0
  · obtain ⟨hw, ha, hz⟩ := h2
    have hin : (writeByte D s .cmd).2 = true := by simpa [fetchOk, hw, ha, hz] using hf
    refine .inl ⟨⟨.wr .cmd (writeByte D s .cmd).1 false (unitPart s.writeState s.writeSrc), rfl, ?_⟩, fun h => by simp [Reading, hw] at h⟩
    rw [write_refused D s _ hw (by simp [slotIn, ha]) hz]
    simp [St.chk, hin, St.emit, hs0]
  · -- otherwise the schedule is not looked at, or agrees with the eager one
    have hrd : Reading s.state → (slotIn tmpl q sl).rd = (slotIn tmpl q eager).rd := fun hr => by
      have : sl.offer = true := by simpa [hr] using h1
      simp [slotIn, eager, this]
    refine .inr ⟨commandService_io D s _ _ rfl rfl hrd fun hw hz => ?_, and_congr_right fun hr => by rw [hrd hr]⟩
    simpa [hw, hz, slotIn, eager] using h2

/-- a run looks at the log it starts with only if it makes no call: every call clears it -/
theorem runS_sameButLog (D : Desc) (tmpl : SvcIn) {s s' : St} (q : List Byte) (σ : List Slot) (h : SameButLog s s') :
    SameButLog (runS D tmpl s q σ).1 (runS D tmpl s' q σ).1 ∧ (runS D tmpl s' q σ).2 = (runS D tmpl s q σ).2 := by
  cases σ with
  | nil => exact ⟨h, rfl⟩
  | cons sl r =>
    obtain ⟨l, rfl⟩ := h
    exact ⟨.refl _, rfl⟩

theorem realEvents_cons (l : List Ev) (ls : List (List Ev)) :
    realEvents (l :: ls) = l.filter (fun e => !isRefusal e) ++ realEvents ls := by
  simp [realEvents]

/-- **Schedule independence**: a run under any schedule in which no refused fetch is out of bounds
reaches, up to the log of the last call, the state of an eager run of at most as many calls, leaves
the same input unconsumed, and produces the same events other than refusals. -/
theorem runS_eager (D : Desc) (tmpl : SvcIn) : ∀ (σ : List Slot) (s : St) (q : List Byte),
    (runS D tmpl s q σ).2.2.2 = true →
    ∃ n, n ≤ σ.length ∧
      SameButLog (runS D tmpl s q (List.replicate n eager)).1 (runS D tmpl s q σ).1 ∧
      (runS D tmpl s q (List.replicate n eager)).2.1 = (runS D tmpl s q σ).2.1 ∧
      realEvents (runS D tmpl s q (List.replicate n eager)).2.2.1 = realEvents (runS D tmpl s q σ).2.2.1 := by
  intro σ
  induction σ with
  | nil => intro s q _; exact ⟨0, Nat.le_refl _, .refl _, rfl, rfl⟩
  | cons sl r ih =>
    intro s q hin
    simp only [runS, Bool.and_eq_true] at hin
    rcases slot_step D tmpl { s with log := [] } q sl rfl hin.1 with ⟨⟨e, he, hs1⟩, hnr⟩ | ⟨heq, hq⟩
    · -- a refusal: the rest of the run is the run from the same state on the same input
      obtain ⟨sb, e2⟩ := runS_sameButLog D tmpl q r (s := s) ⟨[e], hs1⟩
      rw [if_neg hnr, e2] at hin
      obtain ⟨n, hn, h1, h2, h3⟩ := ih s q hin.2
      refine ⟨n, Nat.le_succ_of_le hn, ?_, ?_, ?_⟩ <;> simp only [runS, if_neg hnr, e2]
      · exact h1.trans sb
      · exact h2
      · rw [realEvents_cons, hs1, ← h3]; simp [he]
    · simp only [heq, hq] at hin
      obtain ⟨n, hn, h1, h2, h3⟩ := ih _ _ hin.2
      refine ⟨n + 1, Nat.succ_le_succ hn, ?_, ?_, ?_⟩ <;> simp only [runS, List.replicate, heq, hq]
      · exact h1
      · exact h2
      · rw [realEvents_cons, realEvents_cons, h3]

theorem serviceBody_alone (D : Desc) (s : St) (i : SvcIn) (hu : s.ustate = .idle) (hc : s.rcount = 0) :
    (serviceBody D s i).1 = (commandService D s i).1 := by
  unfold serviceBody
  simp only [unsolicitedEventsService_rest D s i hu hc]

end Cat
