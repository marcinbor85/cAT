/-
  No undefined operation (C03): the table cursor stays inside the table, a command is selected
  wherever one is dereferenced, the variable cursor stays inside the command's variable list, and the
  print cursor never passes the capacity.  `ub` is the ghost flag raised by `St.chkUb` at exactly
  those places; `UbInv` and `UbInvU` are the index disciplines of the two machines.  The functions the
  machines share are treated once, for machine `f`, against `UbF D f`.  In the comments a state "asks" for what its clauses
  of `UbInv`/`UbInvU` demand of it (a cursor in range, a selected command); `UbStepF D f s s'`: the flag is as the step found
  it and `s'` satisfies `UbF D f`, nothing assumed of `s`; `UbTry`: the same of a function that may fail, and then nothing
  is asked.
-/
import CatVerif.Proofs.NoFault
import CatVerif.Proofs.GraphU
import CatVerif.Proofs.Graph
namespace Cat
open St

/-- states in which the command machine dereferences `self->cmd` (now or after a flush) -/
def NeedsCmd (s : St) : Prop :=
  s.state = .commandFound ∨ s.state = .parseCommandArgs ∨ s.state = .parseWriteArgs ∨ s.state = .formatReadArgs ∨
  s.state = .waitTestAck ∨ s.state = .formatTestArgs ∨ s.state = .writeLoop ∨ s.state = .readLoop ∨
  s.state = .testLoop ∨ s.state = .runLoop ∨ s.state = .afterFlushFormatRead ∨ s.state = .afterFlushFormatTest ∨
  ((s.state = .flushWait ∨ s.state = .flushWrite) ∧ (s.writeStateAfter = .fmtRead ∨ s.writeStateAfter = .fmtTest))

structure UbInv (D : Desc) (s : St) : Prop where
  idx : (s.state = .updateCommandState ∨ s.state = .searchCommand ∨ s.state = .printCmd ∨
         ((s.state = .flushWait ∨ s.state = .flushWrite) ∧ s.writeStateAfter = .printCmd)) → s.index < D.commandsNum
  name : s.state = .parseCommandChar → s.index = 0
  cmd : NeedsCmd s → s.cmd.isSome
  var : (s.state = .parseWriteArgs ∨ s.state = .formatReadArgs ∨ s.state = .formatTestArgs) → s.index < (D.cmdD s.cmd).varNum
  pos : (s.state = .formatReadArgs ∨ s.state = .formatTestArgs) → s.position ≤ D.cmdCap

def NeedsUCmd (s : St) : Prop :=
  s.ustate = .formatReadArgs ∨ s.ustate = .formatTestArgs ∨ s.ustate = .readLoop ∨ s.ustate = .testLoop ∨
  s.ustate = .afterFlushFormatRead ∨ s.ustate = .afterFlushFormatTest ∨
  ((s.ustate = .flushWait ∨ s.ustate = .flushWrite) ∧ (s.uwriteStateAfter = .fmtRead ∨ s.uwriteStateAfter = .fmtTest))

structure UbInvU (D : Desc) (s : St) : Prop where
  cmd : NeedsUCmd s → s.ucmd.isSome
  var : (s.ustate = .formatReadArgs ∨ s.ustate = .formatTestArgs) → s.uindex < (D.cmdD s.ucmd).varNum
  pos : (s.ustate = .formatReadArgs ∨ s.ustate = .formatTestArgs) → s.uposition ≤ D.unsCap

theorem varsAccessible_pos (c : CmdD) (a : Access) (h : varsAccessible c a = true) : 0 < c.varNum := by
  unfold varsAccessible at h
  unfold CmdD.varNum
  rcases hv : c.vars with _ | _ | ⟨x, r⟩ <;> simp [hv] at h ⊢

theorem UbInv.congr {D : Desc} {s t : St} (h : UbInv D s) (h1 : t.state = s.state) (h2 : t.writeStateAfter = s.writeStateAfter)
    (h3 : t.index = s.index) (h4 : t.cmd = s.cmd) (h5 : t.position = s.position) : UbInv D t := by
  constructor
  · rw [h1, h2, h3]; exact h.idx
  · rw [h1, h3]; exact h.name
  · unfold NeedsCmd; rw [h1, h2, h4]; exact h.cmd
  · rw [h1, h3, h4]; exact h.var
  · rw [h1, h5]; exact h.pos

theorem UbInvU.congr {D : Desc} {s t : St} (h : UbInvU D s) (h1 : t.ustate = s.ustate) (h2 : t.uwriteStateAfter = s.uwriteStateAfter)
    (h3 : t.uindex = s.uindex) (h4 : t.ucmd = s.ucmd) (h5 : t.uposition = s.uposition) : UbInvU D t := by
  constructor
  · unfold NeedsUCmd; rw [h1, h2, h4]; exact h.cmd
  · rw [h1, h3, h4]; exact h.var
  · rw [h1, h5]; exact h.pos

theorem UbInv.of_keepsC {D : Desc} {s t : St} (k : KeepsC s t) (h : UbInv D s) : UbInv D t := by
  apply h.congr <;> simp [k]

theorem UbInvU.of_keepsU {D : Desc} {s t : St} (k : KeepsU s t) (h : UbInvU D s) : UbInvU D t := by
  apply h.congr <;> simp [k]

theorem UbInv.of_plain {D : Desc} {s : St} (h : s.state = .error ∨ s.state = .idle ∨ s.state = .parsePrefix ∨
    s.state = .waitReadAck ∨ s.state = .commandNotFound ∨ s.state = .hold ∨ s.state = .afterFlushReset ∨ s.state = .afterFlushOk) :
    UbInv D s := by
  rcases h with h | h | h | h | h | h | h | h <;> constructor <;> simp [NeedsCmd, h]

theorem UbInv.of_cmd {D : Desc} {s : St} (hc : s.cmd.isSome = true) (h : s.state = .commandFound ∨ s.state = .parseCommandArgs ∨
    s.state = .waitTestAck ∨ s.state = .writeLoop ∨ s.state = .readLoop ∨ s.state = .testLoop ∨ s.state = .runLoop ∨
    s.state = .afterFlushFormatRead ∨ s.state = .afterFlushFormatTest) : UbInv D s := by
  rcases h with h | h | h | h | h | h | h | h | h <;> exact ⟨by simp [h], by simp [h], fun _ => hc, by simp [h], by simp [h]⟩

theorem UbInv.of_idx {D : Desc} {s : St} (hi : s.index < D.commandsNum) (h : s.state = .updateCommandState ∨ s.state = .searchCommand ∨
    s.state = .printCmd) : UbInv D s := by
  rcases h with h | h | h <;> exact ⟨fun _ => hi, by simp [h], by simp [NeedsCmd, h], by simp [h], by simp [h]⟩

theorem UbInvU.of_idle {D : Desc} {s : St} (h : s.ustate = .idle) : UbInvU D s :=
  ⟨by simp [NeedsUCmd, h], by simp [h], by simp [h]⟩

def PosUb (D : Desc) (f : Fsm) (s s' : St) : Prop := s'.ub = s.ub ∧ s'.pos f ≤ D.capOf f

theorem PosUb.trans {D : Desc} {f : Fsm} {a b c : St} (h1 : PosUb D f a b) (h2 : PosUb D f b c) : PosUb D f a c :=
  ⟨h2.1.trans h1.1, h2.2⟩

theorem PosUb.of_nofault {D : Desc} {f : Fsm} {s s' : St} (h : SameFault s s' ∧ s'.pos f ≤ D.capOf f) : PosUb D f s s' :=
  ⟨h.1.2, h.2⟩

theorem printHexBytes_posUb (D : Desc) (f : Fsm) (wo : Bool) (bs : List Byte) : ∀ s : St, s.pos f ≤ D.capOf f →
    PosUb D f s (printHexBytes D f wo s bs).1 := by
  induction bs with
  | nil => intro s hp; exact ⟨rfl, hp⟩
  | cons b r ih =>
    intro s hp
    simp only [printHexBytes]
    generalize hexFixed 2 (if wo = true then 0 else b) = txt
    have h1 := PosUb.of_nofault (printFmt_nofault D s f txt hp)
    split
    · exact h1.trans (ih _ h1.2)
    · exact h1

theorem formatVar_posUb (D : Desc) (s : St) (f : Fsm) (v : VarD) (hp : s.pos f ≤ D.capOf f) : PosUb D f s (formatVar D s f v).1 := by
  have ck : ∀ c, PosUb D f s (s.chk c) := fun c => ⟨by simp, by simpa using hp⟩
  unfold formatVar
  split
  case h_4 => exact (ck _).trans (printHexBytes_posUb D f _ _ _ (ck _).2)
  case h_5 => exact (ck _).trans (.of_nofault (printAll_nofault D f _ _ (ck _).2))
  all_goals
    -- the three numeric formats: load the value, print its text
    simp only [formatIntDecimal, formatUIntDecimal, formatNumHexadecimal, loadUInt]
    exact rel_ite (R := fun r : St × Bool => PosUb D f s r.1) (fun _ => (ck _).trans (.of_nofault (printFmt_nofault D _ f _ (ck _).2))) fun _ => ⟨rfl, hp⟩

theorem formatInfoType_posUb (D : Desc) (s : St) (f : Fsm) (v : VarD) (hp : s.pos f ≤ D.capOf f) : PosUb D f s (formatInfoType D s f v).1 := by
  unfold formatInfoType
  split
  · exact ⟨rfl, hp⟩
  · exact .of_nofault (printAll_nofault D f _ s hp)

theorem chkUb_true (s : St) : s.chkUb true = s := rfl
theorem emit_ub (s : St) (e : Ev) : (s.emit e).ub = s.ub := rfl
theorem setPos_ub (s : St) (f : Fsm) (n : Nat) : (s.setPos f n).ub = s.ub := by simp

def UbF (D : Desc) : Fsm → St → Prop
  | .cmd => UbInv D
  | .uns => UbInvU D

def UbStepF (D : Desc) (f : Fsm) (s s' : St) : Prop := s'.ub = s.ub ∧ UbF D f s'

theorem UbStepF.of_eq {D : Desc} {f : Fsm} {s t u : St} (h : t.ub = s.ub) (h2 : UbStepF D f t u) : UbStepF D f s u :=
  ⟨h2.1.trans h, h2.2⟩

def UbTry (D : Desc) (f : Fsm) (s : St) (r : St × Bool) : Prop := r.1.ub = s.ub ∧ (r.2 = true → UbF D f r.1)

theorem UbStepF.try {D : Desc} {f : Fsm} {s t : St} (h : UbStepF D f s t) : UbTry D f s (t, true) := ⟨h.1, fun _ => h.2⟩

/-- a unit is started for machine `f`: what is asked is what the state after the unit will ask -/
theorem startFlush_ub (D : Desc) (t : St) (f : Fsm) (a : After)
    (ha : a = .reset ∨ a = .ok ∨ ((a = .fmtRead ∨ a = .fmtTest) ∧ (t.cmdOf f).isSome = true)) : UbStepF D f t (startFlush t f a) := by
  cases f
  · refine ⟨by simp, ?_⟩
    rcases ha with rfl | rfl | ⟨ha, hc⟩
    iterate 2 constructor <;> simp [NeedsCmd]
    exact ⟨by rcases ha with rfl | rfl <;> simp, by simp, fun _ => by simpa [St.cmdOf] using hc, by simp, by simp⟩
  · refine ⟨by simp, ?_⟩
    rcases ha with rfl | rfl | ⟨ha, hc⟩
    iterate 2 constructor <;> simp [NeedsUCmd]
    exact ⟨fun _ => by simpa [St.cmdOf] using hc, by simp, by simp⟩

theorem ackError_ub (D : Desc) (s : St) : UbStepF D .cmd s (ackError D s) :=
  (startFlush_ub D _ .cmd .reset (.inl rfl)).of_eq (by simp)
theorem ackOk_ub (D : Desc) (s : St) : UbStepF D .cmd s (ackOk D s) :=
  (startFlush_ub D _ .cmd .reset (.inl rfl)).of_eq (by simp)

theorem endError_ub (D : Desc) (t : St) (f : Fsm) : UbStepF D f t (endError D t f) := by
  cases f
  · exact ackError_ub D t
  · exact ⟨rfl, .of_idle rfl⟩

theorem endOk_ub (D : Desc) (t : St) (f : Fsm) : UbStepF D f t (endOk D t f) := by
  cases f
  · exact ackOk_ub D t
  · exact ⟨rfl, .of_idle rfl⟩

def InLoop (f : Fsm) (t : St) : Prop :=
  (t.cmdOf f).isSome = true ∧
  match f with
  | .cmd => t.state = .writeLoop ∨ t.state = .readLoop ∨ t.state = .testLoop ∨ t.state = .runLoop
  | .uns => t.ustate = .readLoop ∨ t.ustate = .testLoop

theorem InLoop.ubF {D : Desc} {f : Fsm} {t : St} (h : InLoop f t) : UbF D f t := by
  cases f
  · rcases h.2 with hs | hs | hs | hs <;> exact .of_cmd h.1 (by simp [hs])
  · rcases h.2 with hs | hs <;> exact ⟨fun _ => h.1, by simp [hs], by simp [hs]⟩

theorem setStateRL_ub (D : Desc) (t : St) (f : Fsm) (hc : (t.cmdOf f).isSome = true) :
    UbStepF D f t (setStateRL t f) ∧ UbStepF D f t (setStateTL t f) := by
  cases f <;> exact ⟨⟨rfl, InLoop.ubF ⟨hc, by simp [setStateRL]⟩⟩, ⟨rfl, InLoop.ubF ⟨hc, by simp [setStateTL]⟩⟩⟩

def St.fmting (s : St) : Fsm → Prop
  | .cmd => s.state = .formatReadArgs ∨ s.state = .formatTestArgs
  | .uns => s.ustate = .formatReadArgs ∨ s.ustate = .formatTestArgs

structure Fmt (D : Desc) (f : Fsm) (s : St) : Prop where
  st : s.fmting f
  cmd : (s.cmdOf f).isSome = true
  var : s.idx f < (D.cmdD (s.cmdOf f)).varNum
  pos : s.pos f ≤ D.capOf f

theorem UbF.fmt {D : Desc} {f : Fsm} {s : St} (h : UbF D f s) (hs : s.fmting f) : Fmt D f s := by
  cases f
  · exact ⟨hs, h.cmd (by rcases hs with e | e <;> simp [NeedsCmd, e]), h.var (.inr hs), h.pos hs⟩
  · exact ⟨hs, h.cmd (by rcases hs with e | e <;> simp [NeedsUCmd, e]), h.var hs, h.pos hs⟩

theorem Fmt.ubF {D : Desc} {f : Fsm} {s : St} (h : Fmt D f s) : UbF D f s := by
  obtain ⟨hs, hc, hv, hp⟩ := h
  cases f
  · exact ⟨by rcases hs with e | e <;> simp [e], by rcases hs with e | e <;> simp [e], fun _ => hc, fun _ => hv, fun _ => hp⟩
  · exact ⟨fun _ => hc, fun _ => hv, fun _ => hp⟩

theorem Fmt.congr {D : Desc} {f : Fsm} {s t : St} (h : Fmt D f s) (c : SameC' s t) (u : SameU' s t) (hp : t.pos f ≤ D.capOf f) :
    Fmt D f t := by
  cases f
  · exact ⟨by simpa [St.fmting, c] using h.st, by simpa [St.cmdOf, c] using h.cmd, by simpa [St.cmdOf, St.idx, c] using h.var, hp⟩
  · exact ⟨by simpa [St.fmting, u] using h.st, by simpa [St.cmdOf, u] using h.cmd, by simpa [St.cmdOf, St.idx, u] using h.var, hp⟩

theorem printResponseTest_ub (D : Desc) (s : St) (f : Fsm) (hc : (s.cmdOf f).isSome = true) (hp : s.pos f ≤ D.capOf f) :
    UbTry D f s (printResponseTest D s f) := by
  have tail : ∀ t : St, t.ub = s.ub → (t.cmdOf f).isSome = true →
      UbTry D f s (if (D.cmdD (s.cmdOf f)).hasTest = true then (setStateTL t f, true) else (startFlush t f .ok, true)) :=
    fun t tu tc => rel_ite (fun _ => ((setStateRL_ub D t f tc).2.of_eq tu).try)
      fun _ => ((startFlush_ub D t f .ok (.inr (.inl rfl))).of_eq tu).try
  simp only [printResponseTest, hc, chkUb_true]
  cases (D.cmdD (s.cmdOf f)).desc with
  | none => exact tail s rfl hc
  | some d =>
    have pa := PosUb.of_nofault (printAll_nofault D f [nlStr s, d] s hp)
    exact rel_ite (fun _ => ⟨pa.1, nofun⟩) fun _ => tail _ pa.1 (by cases f <;> simpa [St.cmdOf] using hc)

/-- the head of a response, `NAME=`, printed from the start of the region -/
theorem printHead_ub (D : Desc) (s : St) (f : Fsm) (x : List (List Byte)) :
    let t := (printAll D (s.setPos f 0) f x).1
    t.ub = s.ub ∧ t.cmdOf f = s.cmdOf f ∧ t.pos f ≤ D.capOf f := by
  have pa := PosUb.of_nofault (printAll_nofault D f x (s.setPos f 0) (by simp))
  exact ⟨pa.1.trans (by simp), by cases f <;> simp [St.cmdOf], pa.2⟩

theorem startFormatRead_ub (D : Desc) (s : St) (f : Fsm) (hc : (s.cmdOf f).isSome = true) :
    UbStepF D f s (startFormatRead D s f) := by
  simp only [startFormatRead, setPos_cmdOf, hc, chkUb_true]
  have ph := printHead_ub D s f [(D.cmdD (s.cmdOf f)).name, [61]]
  generalize (printAll D (s.setPos f 0) f [(D.cmdD (s.cmdOf f)).name, [61]]).1 = t at ph ⊢
  obtain ⟨tu, tc, tp⟩ := ph
  have hct : (t.cmdOf f).isSome = true := tc ▸ hc
  refine rel_ite (fun _ => (endError_ub D t f).of_eq tu) fun _ => rel_ite (fun hva => ?_) fun _ =>
    rel_ite (fun _ => (endError_ub D t f).of_eq tu) fun _ => (setStateRL_ub D t f hct).1.of_eq tu
  -- the first variable: there is one, since some variable is readable
  have hv := varsAccessible_pos _ _ hva
  rw [← tc] at hv
  cases f <;> exact ⟨tu, Fmt.ubF ⟨.inl rfl, hct, hv, tp⟩⟩

theorem startFormatTest_ub (D : Desc) (s : St) (f : Fsm) (hc : (s.cmdOf f).isSome = true) :
    UbStepF D f s (startFormatTest D s f) := by
  simp only [startFormatTest, setPos_cmdOf, hc, chkUb_true]
  have ph := printHead_ub D s f [(D.cmdD (s.cmdOf f)).name, [61]]
  generalize (printAll D (s.setPos f 0) f [(D.cmdD (s.cmdOf f)).name, [61]]).1 = t at ph ⊢
  obtain ⟨tu, tc, tp⟩ := ph
  have hct : (t.cmdOf f).isSome = true := tc ▸ hc
  refine rel_ite (fun _ => (endError_ub D t f).of_eq tu) fun _ => rel_ite (fun hva => ?_) fun _ => ?_
  · have hv : 0 < (D.cmdD (t.cmdOf f)).varNum := by rw [tc]; exact (by simpa using hva : _ ∧ _).2
    cases f <;> exact ⟨tu, Fmt.ubF ⟨.inr rfl, hct, hv, tp⟩⟩
  · -- no variables: the description (if any), then the handler or OK
    have pr := printResponseTest_ub D t f hct tp
    exact rel_ite (fun hok => ⟨pr.1.trans tu, pr.2 hok⟩) fun _ => (endError_ub D _ f).of_eq (pr.1.trans tu)

theorem nextFormatVar_ub (D : Desc) (s : St) (f : Fsm) (h : Fmt D f s) : UbTry D f s (nextFormatVar D s f) := by
  have hu : let u := s.setIdx f (s.idx f + 1); u.ub = s.ub ∧ u.fmting f ∧ u.cmdOf f = s.cmdOf f := by
    cases f <;> exact ⟨rfl, h.st, rfl⟩
  simp only [nextFormatVar]
  generalize s.setIdx f (s.idx f + 1) = u at hu
  obtain ⟨uu, us, uc⟩ := hu
  refine rel_ite (fun hlt => rel_ite (fun _ => ((endError_ub D u f).of_eq uu).try) fun hpos => ⟨by simp [uu], fun _ => ?_⟩)
    fun _ => ⟨uu, nofun⟩
  have hu : Fmt D f u := ⟨us, uc ▸ h.cmd, uc ▸ hlt, Nat.le_of_not_ge hpos⟩
  exact (hu.congr (by simp) (by simp) (by rw [setPos_pos, setB_pos]; omega)).ubF

theorem formatReadArgs_ub (D : Desc) (s : St) (f : Fsm) (i : SvcIn) (h : Fmt D f s) :
    UbStepF D f s (formatReadArgs D s f i).1 := by
  simp only [formatReadArgs, h.cmd, chkUb_true, h.var, decide_true, apply_ite Prod.fst]
  generalize (D.cmdD (s.cmdOf f)).varAt (s.idx f) = v
  have k1 : (varReadCb D s f v i).1.ub = s.ub ∧ Fmt D f (varReadCb D s f v i).1 := by
    cases f <;> exact ⟨by simp, h.congr (by simp) (by simp) (by simpa [St.pos] using h.pos)⟩
  generalize (varReadCb D s f v i).1 = s1 at k1 ⊢
  obtain ⟨u1, h1⟩ := k1
  refine rel_ite (fun _ => (endError_ub D s1 f).of_eq u1) fun _ => ?_
  have u2 := formatVar_posUb D s1 f v h1.pos
  have h2 := h1.congr (t := (formatVar D s1 f v).1) (by simp) (by simp) u2.2
  generalize (formatVar D s1 f v).1 = s2 at h2 u2 ⊢
  have hub2 : s2.ub = s.ub := u2.1.trans u1
  refine rel_ite (fun _ => (endError_ub D s2 f).of_eq hub2) fun _ => ?_
  have n := nextFormatVar_ub D s2 f h2
  refine rel_ite (fun hm => ⟨n.1.trans hub2, n.2 hm⟩) fun hm => ?_
  -- no more variables: the handler, or the text is flushed before OK
  rw [nextFormatVar_done D s2 f (by simpa using hm)]
  have u3 : let u := s2.setIdx f (s2.idx f + 1); u.ub = s.ub ∧ (u.cmdOf f).isSome = true := by
    cases f <;> exact ⟨hub2, h2.cmd⟩
  exact rel_ite (fun _ => (setStateRL_ub D _ f u3.2).1.of_eq u3.1) fun _ => (startFlush_ub D _ f .ok (.inr (.inl rfl))).of_eq u3.1

theorem formatTestArgs_ub (D : Desc) (s : St) (f : Fsm) (h : Fmt D f s) : UbStepF D f s (formatTestArgs D s f).1 := by
  simp only [formatTestArgs, h.cmd, chkUb_true, h.var, decide_true, apply_ite Prod.fst]
  generalize (D.cmdD (s.cmdOf f)).varAt (s.idx f) = v
  have u2 := formatInfoType_posUb D s f v h.pos
  have h2 := h.congr (t := (formatInfoType D s f v).1) (by simp) (by simp) u2.2
  generalize (formatInfoType D s f v).1 = s2 at h2 u2 ⊢
  refine rel_ite (fun _ => (endError_ub D s2 f).of_eq u2.1) fun _ => ?_
  have n := nextFormatVar_ub D s2 f h2
  refine rel_ite (fun hm => ⟨n.1.trans u2.1, n.2 hm⟩) fun hm => ?_
  -- no more variables: the description (if any), then the handler or OK
  rw [nextFormatVar_done D s2 f (by simpa using hm)]
  have u3 : let u := s2.setIdx f (s2.idx f + 1); u.ub = s.ub ∧ (u.cmdOf f).isSome = true ∧ u.pos f ≤ D.capOf f := by
    cases f <;> exact ⟨u2.1, h2.cmd, h2.pos⟩
  have pr := printResponseTest_ub D _ f u3.2.1 u3.2.2
  exact rel_ite (fun hok => ⟨pr.1.trans u3.1, pr.2 hok⟩) fun _ => (endError_ub D _ f).of_eq (pr.1.trans u3.1)

/-- the command list starts at the head of the table -/
theorem startPrintCmdList_ub (D : Desc) (t : St) :
    (startPrintCmdList D t).ub = t.ub ∧ (0 < D.commandsNum → UbInv D (startPrintCmdList D t)) := by
  unfold startPrintCmdList
  exact rel_ite (R := fun x : St => x.ub = t.ub ∧ (0 < D.commandsNum → UbInv D x))
    (fun _ => ⟨(ackOk_ub D t).1, fun _ => (ackOk_ub D t).2⟩) fun _ => ⟨rfl, fun hn => .of_idx hn (.inr (.inr rfl))⟩

/-- a call meant for the command machine: made by the unsolicited machine's switch it leaves that machine alone -/
theorem cmdCall_ub {D : Desc} {f : Fsm} {t t' : St} (h : InLoop f t) (hc : UbStepF D .cmd t t') (hu : KeepsU t t') :
    UbStepF D f t t' := by
  cases f
  · exact hc
  · exact ⟨hc.1, .of_keepsU hu h.ubF⟩

theorem arm_ub (D : Desc) (f : Fsm) (k : HKind) (n : Spec.Next) (t : St) (h : InLoop f t) (hn : f = .cmd → 0 < D.commandsNum) :
    UbStepF D f t (doCalls D f t (Spec.callsOf k n)) := by
  cases n with
  | finishOk =>
    cases k with
    | write | run => exact cmdCall_ub (t' := ackOk D t) h (ackOk_ub D t) (by simp)
    | read | test => exact endOk_ub D t f
  | finishError =>
    cases k with
    | write | run => exact cmdCall_ub (t' := ackError D t) h (ackError_ub D t) (by simp)
    | read | test => exact endError_ub D t f
  | dataThenOk => exact startFlush_ub D t f .ok (.inr (.inl rfl))
  | dataThenAgain =>
    cases k with
    | read => exact startFlush_ub D t f .fmtRead (.inr (.inr ⟨.inl rfl, h.1⟩))
    | write | run | test => exact startFlush_ub D t f .fmtTest (.inr (.inr ⟨.inr rfl, h.1⟩))
  | again =>
    cases k with
    | read => exact startFormatRead_ub D t f h.1
    | test => exact startFormatTest_ub D t f h.1
    | write | run => exact ⟨rfl, h.ubF⟩
  | hold => exact cmdCall_ub (t' := enableHoldState t) h ⟨rfl, .of_plain (by simp [enableHoldState])⟩ (by simp)
  | cmdListThenOk =>
    cases f
    · exact ⟨(startPrintCmdList_ub D t).1, (startPrintCmdList_ub D t).2 (hn rfl)⟩
    · exact ⟨(startPrintCmdList_ub D t).1, .of_keepsU (t := startPrintCmdList D t) (by simp) h.ubF⟩
  | releaseThen ok =>
    -- `hold_exit` records a status; the event or command then ends, whatever the state
    cases ok
    · exact (endError_ub D _ f).of_eq (by simp [doCall])
    · exact (endOk_ub D _ f).of_eq (by simp [doCall])

theorem loopStep_ub (D : Desc) (f : Fsm) (k : HKind) (s : St) (ans : HAnswer) (h : InLoop f s) (hn : f = .cmd → 0 < D.commandsNum) :
    UbStepF D f s (loopStep D f k s ans) := by
  simp only [loopStep, h.1, chkUb_true]
  generalize handlerEv D f k s ans.ret = ev
  have a : InLoop f (applyNested D f k.edits (s.emit ev) ans.acts) := by cases f <;> simpa [InLoop, St.cmdOf] using h
  rw [loopTable_eq]
  exact (arm_ub D f k _ _ a hn).of_eq (by simp)

/-- what the reading states do with a byte: every arm starts a result code, or stays, or moves to a state that
asks nothing, or only for the cursor at the head of the (non-empty) table -/
theorem readerBody_ub (D : Desc) (t : St) (hn : 0 < D.commandsNum) (h : UbInv D t) : UbStepF D .cmd t (readerBody D t.state t) := by
  have cr : UbStepF D .cmd t { t with crFlag := true } := ⟨rfl, h.congr rfl rfl rfl rfl rfl⟩
  have err : UbStepF D .cmd t { t with state := .error } := ⟨rfl, .of_plain (by simp)⟩
  have srch : ∀ x : St, UbInv D { prepareSearchCommand x with state := .searchCommand } :=
    fun x => .of_idx hn (.inr (.inl rfl))
  cases hs : t.state <;> simp only [readerBody]
  case idle => exact rel_ite (fun _ => ⟨rfl, .of_plain (by simp)⟩) fun _ => rel_ite (fun _ => ⟨rfl, h⟩) fun _ => err
  case parsePrefix =>
    -- the name is matched from the head of the table
    refine rel_ite (fun _ => ⟨by simp, ?_⟩) fun _ => rel_ite (fun _ => ackError_ub D t) fun _ => rel_ite (fun _ => cr) fun _ => err
    constructor <;> simp [NeedsCmd, prepareParseCommand]
  case parseCommandChar =>
    have h0 := h.name hs
    exact rel_ite (fun _ => rel_ite (fun _ => ⟨rfl, srch t⟩) fun _ => ackOk_ub D t) fun _ => rel_ite (fun _ => cr) fun _ =>
      rel_ite (fun _ => rel_ite (fun _ => err) fun _ => ⟨rfl, .of_plain (by simp)⟩) fun _ =>
      rel_ite (fun _ => rel_ite (fun _ => err) fun _ => ⟨rfl, srch _⟩) fun _ =>
      rel_ite (fun _ => ⟨rfl, .of_idx (h0 ▸ hn) (.inl rfl)⟩) fun _ => err
  case waitReadAck => exact rel_ite (fun _ => ⟨rfl, srch t⟩) fun _ => rel_ite (fun _ => cr) fun _ => err
  case parseCommandArgs =>
    -- the command stays selected; a writable variable is a variable
    have hc := h.cmd (by simp [NeedsCmd, hs])
    simp only [hc, chkUb_true]
    refine rel_ite (fun _ => rel_ite (fun _ => ackError_ub D t) fun _ =>
        rel_ite (fun hw => rel_ite (fun _ => ackError_ub D t) fun _ => ⟨rfl, ?_⟩) fun _ =>
        rel_ite (fun _ => ackError_ub D t) fun _ => ⟨rfl, .of_cmd hc (by simp)⟩) fun _ =>
      rel_ite (fun _ => cr) fun _ => rel_ite (fun _ => ⟨rfl, .of_cmd hc (by simp)⟩) fun _ => rel_ite (fun _ => err) fun _ =>
      rel_ite (fun _ => ⟨by simp, h.congr (by simp) (by simp) (by simp) (by simp) (by simp)⟩) fun _ => ⟨by simp, .of_plain (by simp)⟩
    exact ⟨by simp, by simp, fun _ => hc, fun _ => varsAccessible_pos _ _ hw, by simp⟩
  case waitTestAck =>
    exact rel_ite (fun _ => startFormatTest_ub D t .cmd (h.cmd (by simp [NeedsCmd, hs]))) fun _ => rel_ite (fun _ => cr) fun _ => err
  case error => exact rel_ite (fun _ => ackError_ub D t) fun _ => rel_ite (fun _ => cr) fun _ => ⟨rfl, h⟩
  -- in the states that do not read the body is the identity
  all_goals exact ⟨rfl, h⟩

theorem updateCommand_ub (D : Desc) (s : St) (hs : s.state = .updateCommandState) (hn : 0 < D.commandsNum)
    (h : UbInv D s) : UbStepF D .cmd s (updateCommand D s).1 := by
  have hi := h.idx (Or.inl hs)
  have hu : let u := updateLane D s; u.ub = s.ub ∧ u.state = .updateCommandState ∧ u.index = s.index := by simp [hs]
  simp only [updateCommand, hi, decide_true, chkUb_true, updateAdvance]
  generalize updateLane D s = u at hu
  obtain ⟨uu, us, ui⟩ := hu
  -- past the last entry the cursor returns to the head of the table
  refine rel_ite (fun _ => rel_ite (fun _ => ⟨uu, ?_⟩) fun _ => ⟨uu, .of_idx hn (.inr (.inl rfl))⟩) fun hlt =>
    ⟨uu, .of_idx (Nat.lt_of_not_ge hlt) (.inl us)⟩
  constructor <;> simp [NeedsCmd]

theorem searchCommand_ub (D : Desc) (s : St) (hs : s.state = .searchCommand) (h : UbInv D s) :
    UbStepF D .cmd s (searchCommand D s).1 := by
  have hi := h.idx (Or.inr (Or.inl hs))
  refine ⟨?_, ?_⟩
  · obtain ⟨c, hc⟩ := getCmdState_eq D s s.index
    simp only [searchCommand, hi, decide_true, chkUb_true, hc, notFoundOrError, apply_ite Prod.fst, apply_ite St.ub, chk_ctl, ite_self]
  have ⟨r1, _, r3, r4⟩ := searchCommand_regs D s
  generalize (searchCommand D s).1 = s' at r1 r3 r4
  generalize hnf : (if s.currentChar = 10 then CState.commandNotFound else .error) = nf at r4
  have nfp : s'.state = nf → UbInv D s' := fun hx => .of_plain (by rw [hx, ← hnf]; split <;> simp)
  by_cases he : (laneOf D s s.index = 1 ∧ s.cmd.isSome = true) ∧ s.index + 1 = D.commandsNum
  · rw [if_pos he] at r4; exact nfp r4
  rw [if_neg he] at r1 r3 r4
  by_cases h2 : laneOf D s s.index = 2
  · rw [if_pos h2] at r1 r4; exact .of_cmd (by rw [r1]; rfl) (.inl r4)
  rw [if_neg h2] at r1 r3 r4
  by_cases hge : s.index + 1 ≥ D.commandsNum
  · -- the table is exhausted: a single candidate is the command, anything else is not found
    rw [if_pos hge] at r4
    by_cases hnone : (if laneOf D s s.index = 1 then some s.index else s.cmd).isNone = true
    · rw [if_pos hnone] at r4; exact nfp r4
    rw [if_neg hnone] at r4
    by_cases h1 : (if laneOf D s s.index = 1 then s.partialCntr + 1 else s.partialCntr) = 1
    · rw [if_pos h1] at r4; exact .of_cmd (by rw [r1]; simpa [Option.isSome_iff_ne_none] using hnone) (.inl r4)
    · rw [if_neg h1] at r4; exact nfp r4
  · rw [if_neg hge] at r4
    exact .of_idx (by rw [r3]; omega) (.inr (.inl (r4.trans hs)))

theorem commandFound_ub (D : Desc) (s : St) (hs : s.state = .commandFound) (h : UbInv D s) :
    UbStepF D .cmd s (commandFound D s).1 := by
  have hc := h.cmd (by simp [NeedsCmd, hs])
  simp only [commandFound, hc, chkUb_true]
  split
  · exact rel_ite (fun _ => ackError_ub D s) fun _ => rel_ite (fun _ => ackError_ub D s) fun _ => ⟨rfl, .of_cmd hc (by simp)⟩
  · exact rel_ite (fun _ => ackError_ub D s) fun _ => startFormatRead_ub D s .cmd hc
  · exact ⟨by simp, .of_cmd (by simpa using hc) (by simp)⟩
  · exact ackError_ub D s

theorem parseWriteArgs_ub (D : Desc) (s : St) (i : SvcIn) (hs : s.state = .parseWriteArgs) (h : UbInv D s) :
    UbStepF D .cmd s (parseWriteArgs D s i).1 := by
  have hc := h.cmd (by simp [NeedsCmd, hs])
  have hv := h.var (Or.inl hs)
  simp only [parseWriteArgs, hc, chkUb_true, hv, decide_true, apply_ite Prod.fst]
  generalize (D.cmdD s.cmd).varAt s.index = v
  have p : let t := (parseVarValue D s v).1
      t.ub = s.ub ∧ t.state = .parseWriteArgs ∧ t.cmd = s.cmd ∧ t.index = s.index := by simp [hs]
  generalize parseVarValue D s v = r at p ⊢
  refine rel_ite (fun _ => (ackError_ub D _).of_eq p.1) fun _ => ?_
  have q : let s2 := (varWriteCb D r.1 v i).1
      s2.ub = s.ub ∧ s2.state = .parseWriteArgs ∧ s2.cmd = s.cmd ∧ s2.index = s.index := by simpa using p
  generalize (varWriteCb D r.1 v i).1 = s2 at q ⊢
  obtain ⟨hub, hst, hcmd, hidx⟩ := q
  refine rel_ite (fun _ => (ackError_ub D s2).of_eq hub) fun _ => rel_ite (fun hm => ⟨hub, ?_⟩) fun _ =>
    rel_ite (fun _ => (ackError_ub D _).of_eq hub) fun _ => rel_ite (fun _ => (ackError_ub D _).of_eq hub) fun _ =>
    rel_ite (fun _ => (ackOk_ub D _).of_eq hub) fun _ => ⟨hub, .of_cmd (hcmd ▸ hc) (.inr (.inr (.inr (.inl rfl))))⟩
  -- the next variable exists
  simp only [Bool.and_eq_true, decide_eq_true_eq] at hm
  exact ⟨by simp [hst], by simp [hst], fun _ => hcmd ▸ hc, fun _ => by simpa [hcmd, hidx] using hm.1, by simp [hst]⟩

theorem processHoldState_ub (D : Desc) (s : St) (hs : s.state = .hold) : UbStepF D .cmd s (processHoldState D s).1 := by
  simp only [processHoldState, apply_ite Prod.fst]
  exact rel_ite (fun _ => ⟨rfl, .of_plain (by simp [hs])⟩) fun _ =>
    rel_ite (fun _ => (ackError_ub D _).of_eq rfl) fun _ => (ackOk_ub D _).of_eq rfl

theorem processIoWriteWait_ub (D : Desc) (s : St) (hs : s.state = .flushWait) (h : UbInv D s) :
    UbStepF D .cmd s (processIoWriteWait s).1 := by
  simp only [processIoWriteWait]
  refine rel_ite (fun _ => ⟨rfl, ?_⟩) fun _ => ⟨rfl, h⟩
  -- waiting and writing ask the same
  exact ⟨fun x => h.idx (by simpa [hs] using x), by simp, fun x => h.cmd (by simpa [NeedsCmd, hs] using x), by simp, by simp⟩

theorem processIoWrite_ub (D : Desc) (s : St) (i : SvcIn) (hs : s.state = .flushWrite) (h : UbInv D s) :
    UbStepF D .cmd s (processIoWrite D s i).1 := by
  obtain ⟨hi, hc, hub, ha, hst⟩ : let t := (processIoWrite D s i).1
      t.index = s.index ∧ t.cmd = s.cmd ∧ t.ub = s.ub ∧ t.writeStateAfter = s.writeStateAfter ∧
      (t.state = s.state ∨ t.state = s.writeStateAfter.toC) := by simp
  generalize (processIoWrite D s i).1 = t at hi hc hub ha hst ⊢
  refine ⟨hub, ?_⟩
  rcases hst with e | e
  · -- within the unit nothing that is asked changes
    exact ⟨fun x => hi ▸ h.idx (by rwa [e, ha] at x), by simp [e, hs],
      fun x => hc ▸ h.cmd (by unfold NeedsCmd at x ⊢; rwa [e, ha] at x), by simp [e, hs], by simp [e, hs]⟩
  · -- the unit is complete: the machine goes on to the state recorded at its start, of which the flush asked the same
    cases hA : s.writeStateAfter with
    | reset | ok => exact .of_plain (by simp [e, hA, After.toC])
    | fmtRead | fmtTest => exact .of_cmd (hc ▸ h.cmd (by simp [NeedsCmd, hs, hA])) (by simp [e, hA, After.toC])
    | printCmd => exact .of_idx (hi ▸ h.idx (by simp [hs, hA])) (by simp [e, hA, After.toC])

theorem printCurrentCmdFullName_posUb (D : Desc) (t : St) (x : List Byte) (hp : t.pos .cmd ≤ D.capOf .cmd) :
    PosUb D .cmd t (printCurrentCmdFullName D t x).1 := by
  simp only [printCurrentCmdFullName]
  split
  · have a := PosUb.of_nofault (printN_nofault D t .cmd (nlStr t) hp)
    generalize printN D t .cmd (nlStr t) = r at a
    obtain ⟨u, ok⟩ := r
    cases ok
    · exact a
    · exact a.trans (.of_nofault (printAll_nofault D .cmd _ { u with length := 1 } a.2))
  · exact .of_nofault (printAll_nofault D .cmd _ t hp)

theorem printCmdForm_ub (D : Desc) (t : St) (avail : Bool) (x : List Byte) (next : CmdType)
    (ht : t.state = .printCmd) (hi : t.index < D.commandsNum) : UbStepF D .cmd t (printCmdForm D t avail x next) := by
  simp only [printCmdForm]
  refine rel_ite (fun _ => ?_) fun _ => ⟨rfl, .of_idx hi (.inr (.inr ht))⟩
  have pu := printCurrentCmdFullName_posUb D { t with position := 0 } x (Nat.zero_le _)
  have pi : (printCurrentCmdFullName D { t with position := 0 } x).1.index = t.index := by simp
  generalize printCurrentCmdFullName D { t with position := 0 } x = r at pu pi ⊢
  refine rel_ite (fun _ => (ackError_ub D _).of_eq pu.1) fun _ => ⟨by simpa using pu.1, ?_⟩
  -- the form is flushed, then the list goes on from the same entry
  exact ⟨fun _ => by simpa [pi] using hi, by simp, by simp [NeedsCmd], by simp, by simp⟩

theorem cmdListNextCmd_ub (D : Desc) (t : St) : UbTry D .cmd t (cmdListNextCmd D t) := by
  simp only [cmdListNextCmd]
  exact rel_ite (fun _ => ⟨rfl, nofun⟩) fun hlt => ⟨rfl, fun _ => .of_idx (Nat.lt_of_not_ge hlt) (.inr (.inr rfl))⟩

theorem printCmdList_ub (D : Desc) (s : St) (hs : s.state = .printCmd) (h : UbInv D s) :
    UbStepF D .cmd s (printCmdList D s) := by
  have hi := h.idx (Or.inr (Or.inr (Or.inl hs)))
  simp only [printCmdList, hi, decide_true, chkUb_true]
  have n := cmdListNextCmd_ub D { s with cmd := some s.index }
  have form := fun avail x nx => printCmdForm_ub D { s with cmd := some s.index } avail x nx hs hi
  split
  · exact rel_ite (fun _ => rel_ite (fun hm => ⟨n.1, n.2 hm⟩) fun _ => (ackOk_ub D _).of_eq n.1) fun _ =>
      ⟨rfl, .of_idx hi (.inr (.inr hs))⟩
  iterate 4 exact form _ _ _
  · exact rel_ite (fun hm => ⟨n.1, n.2 hm⟩) fun _ => (ackOk_ub D _).of_eq n.1

/-- **One step of the command machine performs no undefined operation and keeps the index
discipline.** -/
theorem commandService_ub (D : Desc) (s : St) (i : SvcIn) (hn : 0 < D.commandsNum) (h : UbInv D s) :
    UbStepF D .cmd s (commandService D s i).1 := by
  by_cases hr : Reading s.state
  · -- neither the refused read nor the byte stored changes anything that is asked
    rw [commandService_reader i hr]
    exact reader_fst (P := UbStepF D .cmd s) s i ⟨rfl, h.congr rfl rfl rfl rfl rfl⟩ fun b =>
      (readerBody_ub D (rdChar s b) hn (h.congr rfl rfl rfl rfl rfl)).of_eq rfl
  cases hk : loopKind s.state with
  | some k =>
    have hl : s.state = .writeLoop ∨ s.state = .readLoop ∨ s.state = .testLoop ∨ s.state = .runLoop := by
      revert hk; cases s.state <;> simp [loopKind]
    rw [commandService_loop i hk]
    exact loopStep_ub D .cmd k s i.hc ⟨h.cmd (by rcases hl with e | e | e | e <;> simp [NeedsCmd, e]), hl⟩ fun _ => hn
  | none =>
  unfold commandService
  cases hs : s.state <;> simp only
  case updateCommandState => exact updateCommand_ub D s hs hn h
  case searchCommand => exact searchCommand_ub D s hs h
  case commandFound => exact commandFound_ub D s hs h
  case commandNotFound => exact ackError_ub D s
  case parseWriteArgs => exact parseWriteArgs_ub D s i hs h
  case formatReadArgs => exact formatReadArgs_ub D s .cmd i (UbF.fmt (f := .cmd) h (.inl hs))
  case formatTestArgs => exact formatTestArgs_ub D s .cmd (UbF.fmt (f := .cmd) h (.inr hs))
  case hold => exact processHoldState_ub D s hs
  case flushWait => exact processIoWriteWait_ub D s hs h
  case flushWrite => exact processIoWrite_ub D s i hs h
  case afterFlushReset =>
    refine ⟨by simp, ?_⟩
    simp only [resetState]
    split <;> exact .of_plain (by simp)
  case afterFlushOk => exact ackOk_ub D s
  case afterFlushFormatRead => exact startFormatRead_ub D s .cmd (h.cmd (by simp [NeedsCmd, hs]))
  case afterFlushFormatTest => exact startFormatTest_ub D s .cmd (h.cmd (by simp [NeedsCmd, hs]))
  case printCmd => exact printCmdList_ub D s hs h
  -- left: the reading states and the loop states, which `hr` and `hk` exclude
  all_goals simp [Reading, loopKind, hs] at hr hk

theorem checkUnsolicitedBuffers_ub (D : Desc) (s : St) (hs : s.ustate = .idle) : UbStepF D .uns s (checkUnsolicitedBuffers D s) :=
  checkUnsolicitedBuffers_cases D s (fun _ => ⟨rfl, .of_idle hs⟩) fun _ x e => by
    -- the event taken from the ring becomes the machine's command
    obtain ⟨xu, xs, xc⟩ : x.ub = s.ub ∧ x.ustate = .idle ∧ (x.cmdOf .uns).isSome = true := by subst e; simp [St.cmdOf, hs]
    exact ⟨(startFormatRead_ub D x .uns xc).of_eq xu, (startFormatTest_ub D x .uns xc).of_eq xu, xu, .of_idle xs⟩

theorem unsolicitedProcessIoWrite_ub (D : Desc) (s : St) (i : SvcIn) (hs : s.ustate = .flushWrite) (h : UbInvU D s) :
    UbStepF D .uns s (unsolicitedProcessIoWrite D s i).1 := by
  obtain ⟨hc, hub, ha, hst⟩ : let t := (unsolicitedProcessIoWrite D s i).1
      t.ucmd = s.ucmd ∧ t.ub = s.ub ∧ t.uwriteStateAfter = s.uwriteStateAfter ∧
      (t.ustate = s.ustate ∨ t.ustate = s.uwriteStateAfter.toU) := by simp
  generalize (unsolicitedProcessIoWrite D s i).1 = t at hc hub ha hst ⊢
  refine ⟨hub, ?_⟩
  rcases hst with e | e
  · exact ⟨fun x => hc ▸ h.cmd (by unfold NeedsUCmd at x ⊢; rwa [e, ha] at x), by simp [e, hs], by simp [e, hs]⟩
  · cases hA : s.uwriteStateAfter with
    | reset | ok | printCmd => constructor <;> simp [e, hA, After.toU, NeedsUCmd]
    | fmtRead | fmtTest =>
      exact ⟨fun _ => hc ▸ h.cmd (by simp [NeedsUCmd, hs, hA]), by simp [e, hA, After.toU], by simp [e, hA, After.toU]⟩

/-- **One step of the unsolicited machine performs no undefined operation and keeps its index
discipline.** -/
theorem unsolicitedEventsService_ub (D : Desc) (s : St) (i : SvcIn) (h : UbInvU D s) :
    UbStepF D .uns s (unsolicitedEventsService D s i).1 := by
  have lp : ∀ k, (s.ustate = .readLoop ∨ s.ustate = .testLoop) → UbStepF D .uns s (loopStep D .uns k s i.hu) := fun k hl =>
    loopStep_ub D .uns k s i.hu ⟨h.cmd (by rcases hl with e | e <;> simp [NeedsUCmd, e]), hl⟩ fun e => Fsm.noConfusion e
  unfold unsolicitedEventsService
  cases hs : s.ustate <;> simp only
  case idle => exact checkUnsolicitedBuffers_ub D s hs
  case formatReadArgs => exact formatReadArgs_ub D s .uns i (UbF.fmt (f := .uns) h (.inl hs))
  case formatTestArgs => exact formatTestArgs_ub D s .uns (UbF.fmt (f := .uns) h (.inr hs))
  case readLoop => exact lp .read (.inl hs)
  case testLoop => exact lp .test (.inr hs)
  case flushWait =>
    simp only [unsolicitedProcessIoWriteWait]
    refine rel_ite (fun _ => ⟨rfl, ?_⟩) fun _ => ⟨rfl, h⟩
    exact ⟨fun x => h.cmd (by simpa [NeedsUCmd, hs] using x), by simp, by simp⟩
  case flushWrite => exact unsolicitedProcessIoWrite_ub D s i hs h
  case afterFlushReset => exact ⟨rfl, .of_idle rfl⟩
  case afterFlushOk => exact ⟨rfl, .of_idle rfl⟩
  case afterFlushFormatRead => exact startFormatRead_ub D s .uns (h.cmd (by simp [NeedsUCmd, hs]))
  case afterFlushFormatTest => exact startFormatTest_ub D s .uns (h.cmd (by simp [NeedsUCmd, hs]))
end Cat
