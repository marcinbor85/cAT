/-
  Refused io at the level of whole histories (C12): a `cat_service` call in which every io attempt
  of both machines is refused (or in which there is nothing to do) leaves the world as it was — only
  the refusals are logged — so such calls can be inserted into or removed from any history without
  changing anything that follows.
-/
import CatVerif.Proofs.Quiesce
import CatVerif.Proofs.History
namespace Cat
open St

/-- the unsolicited machine has nothing to do, or its write is refused -/
def StutterU (D : Desc) (s : St) (i : SvcIn) : Prop :=
  (s.ustate = .idle ∧ s.rcount = 0) ∨
  (s.ustate = .flushWrite ∧ i.wr = false ∧ (writeByte D s .uns).1 ≠ 0 ∧ (writeByte D s .uns).2 = true)

/-- the command machine's read or write is refused -/
def StutterC (D : Desc) (s : St) (i : SvcIn) : Prop :=
  (Reading s.state ∧ i.rd = none) ∨
  (s.state = .flushWrite ∧ i.wr = false ∧ (writeByte D s .cmd).1 ≠ 0 ∧ (writeByte D s .cmd).2 = true)

def SameButLog (s s' : St) : Prop := ∃ l, s' = { s with log := l }

theorem SameButLog.refl (s : St) : SameButLog s s := ⟨s.log, rfl⟩
theorem SameButLog.trans {a b c : St} (h1 : SameButLog a b) (h2 : SameButLog b c) : SameButLog a c := by
  obtain ⟨l1, e1⟩ := h1
  obtain ⟨l2, e2⟩ := h2
  exact ⟨l2, by rw [e2, e1]⟩
theorem SameButLog.emit (s : St) (e : Ev) : SameButLog s (s.emit e) := ⟨s.log ++ [e], rfl⟩

theorem SameButLog.stutterC {D : Desc} {s s' : St} {i : SvcIn} (h : SameButLog s s') (hc : StutterC D s i) : StutterC D s' i := by
  obtain ⟨l, rfl⟩ := h
  exact hc

theorem stutterU_step (D : Desc) (s : St) (i : SvcIn) (h : StutterU D s i) : SameButLog s (unsolicitedEventsService D s i).1 := by
  rcases h with ⟨h1, h2⟩ | ⟨h1, h2, h3, h4⟩
  · rw [unsolicitedEventsService_rest D s i h1 h2]; exact .refl s
  · rw [write_refused_uns D s i h1 h2 h3, h4]; exact .emit s _

theorem stutterC_step (D : Desc) (s : St) (i : SvcIn) (h : StutterC D s i) : SameButLog s (commandService D s i).1 := by
  rcases h with ⟨h1, h2⟩ | ⟨h1, h2, h3, h4⟩
  · rw [read_refused D s i h1 h2]; exact .emit s _
  · rw [write_refused D s i h1 h2 h3, h4]; exact .emit s _

/-- **A call in which everything is refused changes nothing but the log.** -/
theorem serviceBody_stutter (D : Desc) (s : St) (i : SvcIn) (hu : StutterU D s i) (hc : StutterC D s i) :
    SameButLog s (serviceBody D s i).1 := by
  have a := stutterU_step D s i hu
  unfold serviceBody
  simp only
  exact a.trans (stutterC_step D _ i (a.stutterC hc))

theorem service_stutter (D : Desc) (s : St) (i : SvcIn) (hu : StutterU D s i) (hc : StutterC D s i) :
    SameButLog s (service D s i).1 :=
  withMutex_cases (motive := fun r => SameButLog s r.1) D s i.lock i.unlock _ (serviceBody_stutter D s i hu hc)
    (fun _ => .emit s _) (fun _ => (SameButLog.emit s _).trans ((serviceBody_stutter D (s.emit _) i hu hc).trans (.emit _ _)))

/-- `apply` forgets the log of the previous call -/
theorem apply_sameButLog (w : World) (s' : St) (h : SameButLog w.s s') (op : Op) :
    apply { w with s := s' } op = apply w op := by
  obtain ⟨l, rfl⟩ := h
  rfl

theorem runOps_sameButLog (w : World) {s' : St} (rest : List Op) (sb : SameButLog w.s s') :
    (runOps { w with s := s' } rest).1.D = (runOps w rest).1.D ∧
    SameButLog (runOps w rest).1.s (runOps { w with s := s' } rest).1.s ∧
    (rest ≠ [] → (runOps { w with s := s' } rest).1 = (runOps w rest).1) ∧
    (runOps { w with s := s' } rest).2 = (runOps w rest).2 := by
  cases rest with
  | nil => exact ⟨rfl, sb, fun h => absurd rfl h, rfl⟩
  | cons op r =>
    rw [runOps_cons, runOps_cons, apply_sameButLog w s' sb op]
    exact ⟨rfl, .refl _, fun _ => rfl, rfl⟩

/-- **Stutter removal**: a `cat_service` call in which every io attempt is refused (and the
unsolicited machine has nothing else to do) can be removed from a history: the rest of the history
runs exactly as it would have without it — same results and events call by call, same final world
(up to the log of the last call when nothing follows). -/
theorem runOps_skip_stutter (w : World) (i : SvcIn) (rest : List Op)
    (hu : StutterU w.D w.s i) (hc : StutterC w.D w.s i) :
    (runOps w (.service i :: rest)).1.D = (runOps w rest).1.D ∧
    SameButLog (runOps w rest).1.s (runOps w (.service i :: rest)).1.s ∧
    (rest ≠ [] → (runOps w (.service i :: rest)).1 = (runOps w rest).1) ∧
    (runOps w (.service i :: rest)).2.tail = (runOps w rest).2 := by
  have e : (apply w (.service i)).1 = { w with s := (service w.D { w.s with log := [] } i).1 } := by unfold apply; rfl
  rw [runOps_cons, e]
  exact runOps_sameButLog w rest (.trans ⟨[], rfl⟩ (service_stutter w.D { w.s with log := [] } i hu hc))

theorem runOps_length : ∀ (ops : List Op) (w : World), (runOps w ops).2.length = ops.length
  | [], _ => rfl
  | op :: r, w => by rw [runOps_cons, List.length_cons, runOps_length r, List.length_cons]

/-- **Refused calls anywhere in a history**: if after the operations `a` a `cat_service` call would
have all its io refused, then running it there or leaving it out makes no difference to what the
operations `b` that follow do and return, nor to the final world (up to the log of the last call). -/
theorem runOps_insert_stutter (w : World) (a b : List Op) (i : SvcIn)
    (hu : StutterU (runOps w a).1.D (runOps w a).1.s i) (hc : StutterC (runOps w a).1.D (runOps w a).1.s i) :
    (runOps w (a ++ .service i :: b)).1.D = (runOps w (a ++ b)).1.D ∧
    SameButLog (runOps w (a ++ b)).1.s (runOps w (a ++ .service i :: b)).1.s ∧
    (runOps w (a ++ .service i :: b)).2.take a.length = (runOps w (a ++ b)).2.take a.length ∧
    (runOps w (a ++ .service i :: b)).2.drop (a.length + 1) = (runOps w (a ++ b)).2.drop a.length := by
  have sk := runOps_skip_stutter (runOps w a).1 i b hu hc
  have la := runOps_length a w
  rw [runOps_append, runOps_append]
  refine ⟨sk.1, sk.2.1, ?_, ?_⟩
  · rw [List.take_left' la, List.take_left' la]
  · rw [← List.tail_drop, List.drop_left' la, List.drop_left' la, sk.2.2.2]

end Cat
