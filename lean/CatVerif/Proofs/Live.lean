/-
  Liveness of `cat_service` (C15): a measure on states that every call decreases as long as the
  input delivers nothing, the output accepts every byte, the mutex calls succeed and the handlers
  give final answers — until the call reports OK.  The measure is an explicit expression in the
  table size, the buffer capacities, the number of variables and the number of queued events.
  From the formatting of a response to the end of its flush the two machines run the same functions,
  and on those states their measures `muC` and `locU` are the same expression in different constants
  (`loc`, `Desc.ackf` … `Desc.tl`).
-/
import CatVerif.Proofs.NoOobHist
import CatVerif.Proofs.Quiesce
import CatVerif.Model.Measure
namespace Cat
open St

theorem le_sum_of_mem (l : List Nat) (x : Nat) (h : x ∈ l) : x ≤ l.sum := by
  induction l with
  | nil => simp at h
  | cons a t ih =>
    simp only [List.mem_cons] at h
    simp only [List.sum_cons]
    rcases h with h | h
    · omega
    · have := ih h; omega

theorem cmdByIndex_mem (gs : List GroupD) (i : Nat) (c : CmdD) (h : cmdByIndex gs i = some c) : c ∈ gs.flatMap (·.cmds) := by
  induction gs generalizing i with
  | nil => simp [cmdByIndex] at h
  | cons g r ih =>
    simp only [cmdByIndex] at h
    simp only [List.flatMap_cons, List.mem_append]
    split at h
    · exact Or.inr (ih _ h)
    · exact Or.inl (List.mem_of_getElem? h)

theorem varNum_le (D : Desc) (id : Option Nat) : (D.cmdD id).varNum ≤ D.vars := by
  -- the default command has no variables; any other is one of `allCmds`
  rcases id with _ | k
  · exact Nat.zero_le _
  simp only [Desc.cmdD]
  rcases h : D.cmd? k with _ | c
  · exact Nat.zero_le _
  refine le_sum_of_mem _ _ (List.mem_map_of_mem ?_)
  unfold Desc.cmd? at h
  unfold Desc.allCmds
  split at h
  · exact List.mem_append_left _ (cmdByIndex_mem _ _ _ h)
  · exact List.mem_append_right _ (List.mem_of_getElem? h)

def loc (D : Desc) (s : St) : Fsm → Nat
  | .cmd => muC D s
  | .uns => locU D s

def aft (D : Desc) (s : St) : Fsm → Nat
  | .cmd => aftC D s
  | .uns => aftU D s.uwriteStateAfter

/-! The constants in which the two measures differ on the states both machines have: what is left after the last
call of a response (`ackf`: the command machine still flushes the result code), after the start of the flush of a
response that is complete (`flok`) and in the read and test loops (`rl`, `tl`). -/
namespace Desc
def ackf (D : Desc) : Fsm → Nat | .cmd => D.ACKF | .uns => 0
def flok (D : Desc) : Fsm → Nat | .cmd => D.FLOK | .uns => D.FLOKU
def rl (D : Desc) : Fsm → Nat | .cmd => D.RL | .uns => D.RLU
def tl (D : Desc) : Fsm → Nat | .cmd => D.TL | .uns => D.RLU
end Desc

theorem rl_eq (D : Desc) (f : Fsm) : D.rl f = 1 + D.flok f + D.ackf f := by cases f <;> rfl
theorem rl_le_tl (D : Desc) (f : Fsm) : D.rl f ≤ D.tl f := by
  cases f
  · simp only [Desc.rl, Desc.tl, Desc.TL, Desc.RL]; omega
  · exact Nat.le_refl _

theorem muC_startFlush (D : Desc) (t : St) (a : After) :
    muC D (startFlush t .cmd a) ≤ FL D.cmdCap + aftOf D a t.index t.cmdType := by
  have := nlOff_le t
  simp only [muC, startFlush, St.emit, aftC, stepsLeft, FL]
  omega

theorem muC_ack (D : Desc) (t : St) : muC D (ackOk D t) ≤ D.ACKF ∧ muC D (ackError D t) ≤ D.ACKF :=
  ⟨muC_startFlush D _ .reset, muC_startFlush D _ .reset⟩

theorem loc_end (D : Desc) (t : St) (f : Fsm) : loc D (endOk D t f) f ≤ D.ackf f ∧ loc D (endError D t f) f ≤ D.ackf f := by
  cases f
  · exact muC_ack D t
  · exact ⟨Nat.le_refl _, Nat.le_refl _⟩

theorem loc_startFlush (D : Desc) (t : St) (f : Fsm) : loc D (startFlush t f .ok) f ≤ D.flok f := by
  cases f
  · exact Nat.le_trans (muC_startFlush D t .ok) (by simp only [aftOf, Desc.flok, Desc.FLOK]; omega)
  · have := nlOff_le t
    simp only [loc, locU, startFlush, St.emit, stepsLeft, aftU, Desc.flok, Desc.FLOKU, FL]
    omega

theorem loc_loop (D : Desc) (t : St) (f : Fsm) : loc D (setStateRL t f) f = D.rl f ∧ loc D (setStateTL t f) f = D.tl f := by
  cases f <;> exact ⟨rfl, rfl⟩

def St.isIn (s : St) (c : CState) (u : UState) : Fsm → Prop
  | .cmd => s.state = c
  | .uns => s.ustate = u

theorem loc_args (D : Desc) {s : St} {f : Fsm} :
    (s.isIn .formatReadArgs .formatReadArgs f → loc D s f = (D.vars - s.idx f) + 1 + D.ackf f + D.rl f + D.flok f) ∧
    (s.isIn .formatTestArgs .formatTestArgs f → loc D s f = (D.vars - s.idx f) + 1 + D.ackf f + D.tl f + D.flok f) := by
  cases f <;> constructor <;> intro h <;> simp only [St.isIn] at h <;> simp only [loc, muC, locU, h, Desc.ackf] <;> rfl

theorem loc_startFormatRead (D : Desc) (t : St) (f : Fsm) :
    loc D (startFormatRead D t f) f < D.vars + 2 + D.ackf f + D.rl f + D.flok f := by
  unfold startFormatRead
  simp only
  generalize (t.setPos f 0).chkUb _ = s0
  generalize D.cmdD (s0.cmdOf f) = c
  repeat' with_reducible refine rel_ite (R := fun r => loc D r f < _) (fun _ => ?_) (fun _ => ?_)
  · exact Nat.lt_of_le_of_lt (loc_end D _ f).2 (by omega)
  · rw [(loc_args D).1 (by cases f <;> rfl)]; omega
  · exact Nat.lt_of_le_of_lt (loc_end D _ f).2 (by omega)
  · rw [(loc_loop D _ f).1]; omega

theorem loc_printResponseTest (D : Desc) (t : St) (f : Fsm) :
    (printResponseTest D t f).2 = true → loc D (printResponseTest D t f).1 f ≤ D.tl f + D.flok f := by
  unfold printResponseTest
  simp only
  repeat' with_reducible refine rel_ite (R := fun r : St × Bool => r.2 = true → loc D r.1 f ≤ _) (fun _ => ?_) (fun _ => ?_)
  · exact nofun
  · exact fun _ => Nat.le_trans (Nat.le_of_eq (loc_loop D _ f).2) (Nat.le_add_right _ _)
  · exact fun _ => Nat.le_trans (loc_startFlush D _ f) (Nat.le_add_left _ _)

theorem loc_startFormatTest (D : Desc) (t : St) (f : Fsm) :
    loc D (startFormatTest D t f) f < D.vars + 2 + D.ackf f + D.tl f + D.flok f := by
  unfold startFormatTest
  simp only
  generalize (t.setPos f 0).chkUb _ = s0
  generalize D.cmdD (s0.cmdOf f) = c
  repeat' with_reducible refine rel_ite (R := fun r => loc D r f < _) (fun _ => ?_) (fun _ => ?_)
  · exact Nat.lt_of_le_of_lt (loc_end D _ f).2 (by omega)
  · rw [(loc_args D).2 (by cases f <;> rfl)]; omega
  · rename_i h
    exact Nat.lt_of_le_of_lt (loc_printResponseTest D _ f h) (by omega)
  · exact Nat.lt_of_le_of_lt (loc_end D _ f).2 (by omega)

/-- `x`: the part of the measure that lies behind the variables, `rl + flok` or `tl + flok` -/
theorem nextFormatVar_dec (D : Desc) (t : St) (f : Fsm) (x : Nat)
    (hx : ∀ u : St, (∀ c v, t.isIn c v f → u.isIn c v f) → loc D u f = (D.vars - u.idx f) + 1 + D.ackf f + x) :
    (nextFormatVar D t f).2 = true → loc D (nextFormatVar D t f).1 f < (D.vars - t.idx f) + 1 + D.ackf f + x := by
  have hvl := varNum_le D (t.cmdOf f)
  unfold nextFormatVar
  simp only
  repeat' with_reducible refine rel_ite (R := fun r : St × Bool => r.2 = true → loc D r.1 f < _) (fun _ => ?_) (fun _ => ?_)
  · exact fun _ => Nat.lt_of_le_of_lt (loc_end D _ f).2 (by omega)
  · rename_i hlt _
    intro _
    generalize hr : (setB D _ f _ 44).setPos f _ = r
    have k : (∀ c v, t.isIn c v f → r.isIn c v f) ∧ r.idx f = t.idx f + 1 ∧ t.idx f + 1 < (D.cmdD (t.cmdOf f)).varNum := by
      subst hr; cases f <;> simpa [St.isIn, St.idx, St.setIdx] using hlt
    show loc D r f < _
    rw [hx r k.1, k.2.1]
    omega
  · exact nofun

theorem formatReadArgs_dec (D : Desc) (s : St) (f : Fsm) (i : SvcIn) (hs : s.isIn .formatReadArgs .formatReadArgs f) :
    loc D (formatReadArgs D s f i).1 f < (D.vars - s.idx f) + 1 + D.ackf f + D.rl f + D.flok f := by
  unfold formatReadArgs
  simp only
  generalize hs0 : (s.chkUb (s.cmdOf f).isSome).chkUb _ = s0
  generalize D.cmdD ((s.chkUb (s.cmdOf f).isSome).cmdOf f) = c
  generalize c.varAt (s0.idx f) = v
  generalize hs2 : (formatVar D (varReadCb D s0 f v i).1 f v).1 = s2
  have k : s2.isIn .formatReadArgs .formatReadArgs f ∧ s2.idx f = s.idx f := by
    subst hs0 hs2; cases f <;> simpa [St.isIn, St.idx] using hs
  have nx := nextFormatVar_dec D s2 f (D.rl f + D.flok f) fun u hu => by rw [(loc_args D).1 (hu _ _ k.1)]; omega
  repeat' with_reducible refine rel_ite (R := fun r : St × Int => loc D r.1 f < _) (fun _ => ?_) (fun _ => ?_)
  iterate 2 exact Nat.lt_of_le_of_lt (loc_end D _ f).2 (by omega)
  · rename_i h
    exact Nat.lt_of_lt_of_le (nx h) (by omega)
  · exact Nat.lt_of_le_of_lt (Nat.le_of_eq (loc_loop D _ f).1) (by omega)
  · exact Nat.lt_of_le_of_lt (loc_startFlush D _ f) (by omega)

theorem formatTestArgs_dec (D : Desc) (s : St) (f : Fsm) (hs : s.isIn .formatTestArgs .formatTestArgs f) :
    loc D (formatTestArgs D s f).1 f < (D.vars - s.idx f) + 1 + D.ackf f + D.tl f + D.flok f := by
  unfold formatTestArgs
  simp only
  generalize hs0 : (s.chkUb (s.cmdOf f).isSome).chkUb _ = s0
  generalize D.cmdD ((s.chkUb (s.cmdOf f).isSome).cmdOf f) = c
  generalize c.varAt (s0.idx f) = v
  generalize hs1 : (formatInfoType D s0 f v).1 = s1
  have k : s1.isIn .formatTestArgs .formatTestArgs f ∧ s1.idx f = s.idx f := by
    subst hs0 hs1; cases f <;> simpa [St.isIn, St.idx] using hs
  have nx := nextFormatVar_dec D s1 f (D.tl f + D.flok f) fun u hu => by rw [(loc_args D).2 (hu _ _ k.1)]; omega
  repeat' with_reducible refine rel_ite (R := fun r : St × Int => loc D r.1 f < _) (fun _ => ?_) (fun _ => ?_)
  · exact Nat.lt_of_le_of_lt (loc_end D _ f).2 (by omega)
  · rename_i h
    exact Nat.lt_of_lt_of_le (nx h) (by omega)
  · rename_i h
    exact Nat.lt_of_le_of_lt (loc_printResponseTest D _ f h) (by omega)
  · exact Nat.lt_of_le_of_lt (loc_end D _ f).2 (by omega)

theorem loc_setUnit (D : Desc) {s : St} {f : Fsm} (hs : s.writing f) (ws : Nat) (src : WSrc) (p : Nat) :
    loc D (s.setUnit f ws src p) f = stepsLeft (D.capOf f) ws src p + aft D s f := by
  cases f <;> simp only [St.writing] at hs <;> simp only [loc, muC, locU, St.setUnit, hs, aft, aftC] <;> rfl

theorem loc_emit (D : Desc) (s : St) (e : Ev) (f : Fsm) : loc D (s.emit e) f = loc D s f := by cases f <;> rfl

theorem loc_leave (D : Desc) (s : St) (f : Fsm) : loc D (s.leave f) f = aft D s f := by
  cases f
  · cases h : s.writeStateAfter <;> simp [loc, muC, St.leave, aft, aftC, aftOf, h, After.toC]
  · cases h : s.uwriteStateAfter <;> simp [loc, locU, St.leave, aft, aftU, h, After.toU]

theorem ioWrite_dec (D : Desc) (s : St) (f : Fsm) (i : SvcIn) (hs : s.writing f) (hw : i.wr = true) (o : OobF D s f) :
    loc D (ioWrite D s f i).1 f < stepsLeft (D.capOf f) (s.wst f) (s.wsrc f) (s.pos f) + aft D s f := by
  have hph : s.ph f = .flush := (ph_flush_iff s f).2 (.inr hs)
  have hws := o.wsle hph
  have nlo := nlOff_le s
  have inb := o.writeByte hph
  rw [ioWrite_fst]
  simp only [inb.1, St.chk, if_true, hw, Bool.not_true, Bool.false_eq_true, if_false]
  with_reducible refine rel_ite (R := fun x => loc D x f < _) (fun _ => ?_) (fun hne => ?_)
  · -- the phase ends: the next one, or the state after the unit
    obtain h | h | h : s.wst f = 0 ∨ s.wst f = 1 ∨ s.wst f = 2 := by omega
    all_goals simp only [h, Nat.reduceBEq, Bool.false_eq_true, if_false, if_true]
    iterate 2 rw [loc_setUnit D hs]; simp only [stepsLeft]; omega
    · rw [loc_emit, loc_leave]; simp only [stepsLeft]; omega
  · generalize Ev.wr f _ _ _ = e
    have : (s.emit e).setPos f ((s.emit e).pos f + 1) = (s.setUnit f (s.wst f) (s.wsrc f) (s.pos f + 1)).emit e := by
      cases f <;> rfl
    rw [this, loc_emit, loc_setUnit D hs]
    -- behind a byte that is not NUL its object goes on
    have room := inb.2 (by simpa using hne)
    refine Nat.add_lt_add_right ?_ _
    cases hsrc : s.wsrc f with
    | nl off => have := room.2 off hsrc; simp only [stepsLeft]; omega
    | main => have := (room.1 hsrc).lt; simp only [stepsLeft]; omega

theorem ioWait_dec (D : Desc) (s : St) (f : Fsm) (ho : ¬ s.writing f.other) :
    loc D (ioWait s f).1 f < 1 + stepsLeft (D.capOf f) (s.wst f) (s.wsrc f) (s.pos f) + aft D s f := by
  cases f <;> simp only [St.writing, Fsm.other] at ho <;>
    simp [ioWait, processIoWriteWait, unsolicitedProcessIoWriteWait, ho, loc, muC, locU, aft, aftC, St.wst, St.wsrc, St.pos, Desc.capOf] <;>
    omega

/-- a handler's final answer: not "call me again" (NEXT, DATA_NEXT) and not HOLD -/
def Final (r : Int) : Prop := r ≠ 1 ∧ r ≠ 2 ∧ r ≠ 4

theorem pred_mul_add {n : Nat} (P : Nat) (h : 0 < n) : (n - 1) * P + P = n * P := by
  rw [← Nat.succ_mul, Nat.succ_eq_add_one, Nat.sub_add_cancel h]

theorem muC_startPrintCmdList (D : Desc) (t : St) : muC D (startPrintCmdList D t) ≤ D.ACKF + D.LISTALL := by
  unfold startPrintCmdList
  split
  · have := (muC_ack D t).1; omega
  · rename_i h
    -- with the whole list ahead `listLeft D 0 .none + 1 = D.LISTALL`
    have := pred_mul_add D.PER (Nat.pos_of_ne_zero (by simpa using h))
    have : 6 * (D.FLR + 1) = D.PER := rfl
    simp only [muC, listLeft, Desc.LISTALL, CmdType.stage, Nat.sub_zero]
    omega

def loopLeft (D : Desc) (f : Fsm) : HKind → Nat
  | .write => D.WL
  | .run => D.RUN
  | .read => D.rl f
  | .test => D.tl f

/-- **One handler call with a final answer** ends the loop: an acknowledgement, a flush of the response, the end of the
event, or the command list. -/
theorem loopStep_dec (D : Desc) (f : Fsm) (k : HKind) (s : St) (ans : HAnswer) (hk : f = .uns → k = .read ∨ k = .test)
    (hf : Final ans.ret) : loc D (loopStep D f k s ans) f < loopLeft D f k := by
  obtain ⟨h1, h2, h4⟩ := hf
  unfold loopStep
  simp only
  rw [loopTable_eq]
  generalize applyNested D f k.edits _ ans.acts = t
  have ak := muC_ack D t
  have pl := muC_startPrintCmdList D t
  have e := loc_end D t f
  have eo := (loc_end D (holdExit t Gen.CAT_STATUS_OK).1 f).1
  have ee := (loc_end D (holdExit t Gen.CAT_STATUS_ERROR).1 f).2
  have fl := loc_startFlush D t f
  have le := rl_le_tl D f
  rw [rl_eq] at le
  cases k
  case write | run =>
    obtain rfl : f = .cmd := by cases f <;> simp at hk ⊢
    clear e eo ee fl le
    simp only [Spec.respSpec, h1, h2, h4, or_self, if_false, loopLeft, Desc.WL, Desc.RUN, loc]
    repeat' with_reducible refine rel_ite (R := fun n => muC D (doCalls D .cmd t (Spec.callsOf _ n)) < _) (fun _ => ?_) (fun _ => ?_)
    all_goals simp only [Spec.callsOf, doCalls, doCall]; omega
  case read =>
    clear ak pl
    simp only [Spec.respSpec, h1, h2, h4, if_false, loopLeft]
    rw [rl_eq]
    repeat' with_reducible refine rel_ite (R := fun n => loc D (doCalls D f t (Spec.callsOf .read n)) f < _) (fun _ => ?_) (fun _ => ?_)
    all_goals simp only [Spec.callsOf, doCalls, doCall, if_true, Bool.false_eq_true, if_false]; omega
  case test =>
    clear ak
    simp only [Spec.respSpec, h1, h2, h4, if_false, loopLeft]
    repeat' with_reducible refine rel_ite (R := fun n => loc D (doCalls D f t (Spec.callsOf .test n)) f < _) (fun _ => ?_) (fun _ => ?_)
    all_goals simp only [Spec.callsOf, doCalls, doCall, if_true, Bool.false_eq_true, if_false]
    iterate 4 omega
    -- code 7: the command list, from the command machine only
    · cases f <;> simp only [doCalls, doCall]
      · simp only [loc, Desc.tl, Desc.TL]; omega
      · omega
    · omega

theorem updateCommand_dec (D : Desc) (s : St) (hs : s.state = .updateCommandState) :
    muC D (updateCommand D s).1 < (D.commandsNum - s.index) + 1 + D.SEARCH0 := by
  simp only [updateCommand, updateAdvance, updateLane_frame, chkUb_ctl, prepareSearchCommand]
  (repeat' split) <;> simp [muC, hs, Desc.SEARCH0] <;> omega

theorem searchCommand_dec (D : Desc) (s : St) (hs : s.state = .searchCommand) (hi : s.index < D.commandsNum) :
    muC D (searchCommand D s).1 < (D.commandsNum - s.index) + 2 + D.FOUND + D.ACKF := by
  have g := searchCommand_state D s
  have ⟨_, _, ix, st⟩ := searchCommand_regs D s
  generalize (searchCommand D s).1 = s' at g ix st
  -- the search goes on only with the cursor advanced
  have key : s'.state = .searchCommand → s'.index = s.index + 1 := by
    rw [st, ix]
    by_cases he : (laneOf D s s.index = 1 ∧ s.cmd.isSome = true) ∧ s.index + 1 = D.commandsNum
    · rw [if_pos he, if_pos he]
      split <;> exact nofun
    · rw [if_neg he, if_neg he]
      by_cases h2 : laneOf D s s.index = 2
      · rw [if_pos h2]; exact nofun
      · rw [if_neg h2, if_neg h2]; exact fun _ => rfl
  rcases g with h | h | h
  · simp only [muC, h, hs, key (h.trans hs)]; omega
  · simp only [muC, h]; omega
  · split at h <;> simp only [muC, h] <;> omega

theorem commandFound_dec (D : Desc) (s : St) : muC D (commandFound D s).1 < D.FOUND := by
  unfold commandFound Desc.FOUND
  simp only
  generalize s.chkUb s.cmd.isSome = s0
  generalize D.cmdD s0.cmd = c
  have ae := (muC_ack D s0).2
  have fr : muC D (startFormatRead D s0 .cmd) < D.FMR := loc_startFormatRead D s0 .cmd
  split
  · repeat' split
    · omega
    · omega
    · simp only [muC]; omega
  · split <;> omega
  · simp only [muC]; omega
  · omega

theorem parseWriteArgs_dec (D : Desc) (s : St) (i : SvcIn) (hs : s.state = .parseWriteArgs) :
    muC D (parseWriteArgs D s i).1 < (D.vars - s.index) + 1 + D.ACKF + D.WL := by
  have hvl := varNum_le D s.cmd
  unfold parseWriteArgs
  simp only
  generalize hs0 : (s.chkUb s.cmd.isSome).chkUb _ = s0
  rw [show (s.chkUb s.cmd.isSome).cmd = s.cmd by simp]
  generalize D.cmdD s.cmd = c at hvl
  generalize c.varAt s0.index = v
  generalize hs2 : (varWriteCb D (parseVarValue D s0 v).1 v i).1 = s2
  have k : s2.index = s.index ∧ s2.state = .parseWriteArgs := by subst hs0 hs2; simpa using hs
  repeat' with_reducible refine rel_ite (R := fun r : St × Int => muC D r.1 < _) (fun _ => ?_) (fun _ => ?_)
  iterate 2 exact Nat.lt_of_le_of_lt (muC_ack D _).2 (by omega)
  · rename_i h
    simp only [Bool.and_eq_true, decide_eq_true_eq, k.1] at h
    simp only [muC, k.2, k.1]
    omega
  iterate 2 exact Nat.lt_of_le_of_lt (muC_ack D _).2 (by omega)
  · exact Nat.lt_of_le_of_lt (muC_ack D _).1 (by omega)
  · simp only [muC, Desc.WL]; omega

theorem muC_startFlushRaw (D : Desc) (t : St) (next : CmdType) :
    muC D ({ startFlushRaw t .printCmd with cmdType := next } : St) ≤ FL D.cmdCap + listLeft D t.index next := by
  simp only [muC, startFlushRaw, St.emit, aftC, aftOf, stepsLeft, FL]
  omega

theorem stage_le (t : CmdType) : t.stage ≤ 5 := by cases t <;> simp [CmdType.stage]

theorem listLeft_succ (D : Desc) (i : Nat) (t : CmdType) (h : i + 1 < D.commandsNum) :
    listLeft D (i + 1) .none < listLeft D i t := by
  have := pred_mul_add (n := D.commandsNum - i - 1) D.PER (by omega)
  have e : D.commandsNum - (i + 1) - 1 = D.commandsNum - i - 1 - 1 := by omega
  have : 6 * (D.FLR + 1) = D.PER := rfl
  have h5 := stage_le t
  have := Nat.le_mul_of_pos_left (D.FLR + 1) (show 0 < 6 - t.stage by omega)
  simp only [listLeft, e, show CmdType.none.stage = 0 from rfl, Nat.sub_zero]
  omega

theorem listLeft_stage (D : Desc) (i : Nat) {t t' : CmdType} (h : t'.stage = t.stage + 1) :
    FL D.cmdCap + listLeft D i t' < listLeft D i t := by
  have h5 := stage_le t'
  have := pred_mul_add (n := 6 - t.stage) (D.FLR + 1) (by omega)
  have e : 6 - t'.stage = 6 - t.stage - 1 := by omega
  simp only [listLeft, e, Desc.FLR] at this ⊢
  omega

theorem cmdListNext_lt (D : Desc) (t : St) (ty : CmdType) :
    muC D (if (cmdListNextCmd D t).2 = true then (cmdListNextCmd D t).1 else ackOk D (cmdListNextCmd D t).1)
      < listLeft D t.index ty := by
  unfold cmdListNextCmd
  simp only
  split
  · simp only [Bool.false_eq_true, if_false]
    have := (muC_ack D { t with index := t.index + 1 }).1
    simp only [listLeft]; omega
  · simp only [if_true, muC]
    exact listLeft_succ D t.index ty (by omega)

theorem printCmdForm_lt (D : Desc) (t : St) (avail : Bool) (x : List Byte) (next : CmdType) (hs : t.state = .printCmd)
    (hn : next.stage = t.cmdType.stage + 1) : muC D (printCmdForm D t avail x next) < listLeft D t.index t.cmdType := by
  have key := listLeft_stage D t.index hn
  unfold printCmdForm
  split
  · simp only
    have ix : (printCurrentCmdFullName D { t with position := 0 } x).1.index = t.index := by simp
    generalize printCurrentCmdFullName D { t with position := 0 } x = r at ix
    obtain ⟨s1, ok⟩ := r
    cases ok
    · have := (muC_ack D s1).2
      simp only [Bool.not_false, if_true, listLeft] at key ⊢; omega
    · simp only [Bool.not_true, Bool.false_eq_true, if_false]
      have := muC_startFlushRaw D s1 next
      rw [ix] at this
      exact Nat.lt_of_le_of_lt this key
  · simp only [muC, hs]; omega

theorem printCmdList_dec (D : Desc) (s : St) (hs : s.state = .printCmd) :
    muC D (printCmdList D s) < listLeft D s.index s.cmdType := by
  unfold printCmdList
  simp only
  generalize hsc : s.chkUb _ = sc
  obtain ⟨hix, hty, hst⟩ : sc.index = s.index ∧ sc.cmdType = s.cmdType ∧ sc.state = .printCmd := by
    subst hsc; simpa using hs
  have nx := cmdListNext_lt D ({ sc with cmd := some sc.index } : St)
  have fm := fun avail x next => printCmdForm_lt D ({ sc with cmd := some sc.index } : St) avail x next hst
  rw [← hix, ← hty]
  split <;> rename_i hc
  · split
    · exact nx _
    · generalize (D.cmdD _).onlyTest = b
      cases b <;> simp [muC, hst, hc, listLeft, CmdType.stage] <;> omega
  iterate 4 exact fm _ _ _ (by rw [hc]; rfl)
  · exact nx _

/-- **One step of the command machine** outside the states that wait for input (and HOLD), with an accepting output
and a final handler answer, decreases the measure, unless a unit is ready to be sent while the other machine is
sending: then it waits. -/
theorem commandService_dec (D : Desc) (s : St) (i : SvcIn) (hwr : i.wr = true) (hf : Final i.hc.ret)
    (hi : s.state = .searchCommand → s.index < D.commandsNum) (o : OobF D s .cmd) (hs : s.state ≠ .hold)
    (hr : ¬ Reading s.state) :
    muC D (commandService D s i).1 < muC D s ∨
    ((commandService D s i).1 = s ∧ s.state = .flushWait ∧ s.ustate = .flushWrite) := by
  by_cases hw : s.state = .flushWait ∧ s.ustate = .flushWrite
  · exact .inr ⟨by simp [commandService, processIoWriteWait, hw], hw⟩
  left
  have ld := fun k => loopStep_dec D .cmd k s i.hc (by simp) hf
  -- state by state, with the value of the measure in that state on the right
  generalize hm : muC D s = m
  cases hst : s.state <;> simp [Reading, hst] at hr <;> simp only [commandService, hst] <;> simp only [muC, hst] at hm <;>
    subst hm
  · exact updateCommand_dec D s hst
  · exact searchCommand_dec D s hst (hi hst)
  · exact commandFound_dec D s
  · exact Nat.lt_of_le_of_lt (muC_ack D s).2 (Nat.lt_add_of_pos_left Nat.one_pos)
  · exact parseWriteArgs_dec D s i hst
  · exact formatReadArgs_dec D s .cmd i hst
  · exact formatTestArgs_dec D s .cmd hst
  · exact ld .write
  · exact ld .read
  · exact ld .test
  · exact ld .run
  · exact absurd hst hs
  · exact ioWait_dec D s .cmd (fun h => hw ⟨hst, h⟩)
  · exact ioWrite_dec D s .cmd i hst hwr o
  · unfold resetState; split <;> simp [muC, St.emit]
  · exact Nat.lt_of_le_of_lt (muC_ack D s).1 (Nat.lt_add_of_pos_left Nat.one_pos)
  · exact Nat.lt_of_lt_of_le (loc_startFormatRead D s .cmd) (Nat.le_add_left _ _)
  · exact Nat.lt_of_lt_of_le (loc_startFormatTest D s .cmd) (Nat.le_add_left _ _)
  · exact printCmdList_dec D s hst

theorem rcount_cbKept (D : Desc) (n : Nat) (L : List (List Nested)) (hL : ∀ acts ∈ L, noApi acts = true) :
    CbKept D L (fun s => s.rcount = n) :=
  ⟨fun q h => q.1.2.2.2.trans h, fun f e a acts ha h => (applyNested_noApi D f e acts (hL acts ha) a).2.1.2.2.2.trans h⟩

theorem commandService_rc (D : Desc) (s : St) (i : SvcIn) (ha : noApi i.hc.acts = true) (hv : noApi i.vc.acts = true) :
    (commandService D s i).1.rcount = s.rcount :=
  commandService_kept (rcount_cbKept D s.rcount _ (by simp [ha, hv])) s rfl

theorem unsolicitedEventsService_rc (D : Desc) (s : St) (i : SvcIn) (ha : noApi i.hu.acts = true) (hv : noApi i.vu.acts = true)
    (hne : s.ustate ≠ .idle) : (unsolicitedEventsService D s i).1.rcount = s.rcount :=
  unsolicitedEventsService_kept (rcount_cbKept D s.rcount _ (by simp [ha, hv])) s (fun e => absurd e hne) rfl

/-- **One step of the unsolicited machine** with an accepting output and final answers decreases the measure,
unless there is nothing to do (nothing queued, nothing in progress) or a unit is ready to be sent while the
command machine is sending: then nothing happens. -/
theorem unsolicitedEventsService_dec (D : Desc) (s : St) (i : SvcIn) (hwr : i.wr = true) (hf : Final i.hu.ret)
    (ha : noApi i.hu.acts = true) (hv : noApi i.vu.acts = true) (o : OobF D s .uns) :
    muU D (unsolicitedEventsService D s i).1 < muU D s ∨
    ((unsolicitedEventsService D s i).1 = s ∧
      ((s.ustate = .idle ∧ s.rcount = 0) ∨ (s.ustate = .flushWait ∧ s.state = .flushWrite))) := by
  by_cases hid : s.ustate = .idle
  · rw [show (unsolicitedEventsService D s i).1 = checkUnsolicitedBuffers D s by simp [unsolicitedEventsService, hid]]
    refine checkUnsolicitedBuffers_cases (motive := fun r => muU D r < muU D s ∨ (r = s ∧ _)) D s
      (fun h0 => .inr ⟨rfl, .inl ⟨hid, h0⟩⟩) fun hpos s1 hs1 => ?_
    -- an event is taken from the queue
    have hrc : s1.rcount + 1 = s.rcount := by subst hs1; simp [ringPop]; omega
    have hus : s1.ustate = .idle := by subst hs1; simpa using hid
    have hm : muU D s = (s1.rcount + 1) * D.EV := by simp [muU, locU, hid, hrc]
    have key : ∀ t : St, t.rcount = s1.rcount → locU D t < D.FMU → muU D t < muU D s := by
      intro t h1 h2
      rw [hm]
      simp only [muU, h1, Nat.succ_mul, Desc.EV]
      omega
    exact ⟨.inl (key _ (by simp) (loc_startFormatRead D s1 .uns)), .inl (key _ (by simp) (loc_startFormatTest D s1 .uns)),
      .inl (key _ rfl (by simp only [locU, hus, Desc.FMU]; omega))⟩
  · -- an event is in progress: the queue is not touched, the local measure decreases
    by_cases hw : s.ustate = .flushWait ∧ s.state = .flushWrite
    · exact .inr ⟨by simp [unsolicitedEventsService, unsolicitedProcessIoWriteWait, hw], .inr hw⟩
    left
    simp only [muU, unsolicitedEventsService_rc D s i ha hv hid]
    apply Nat.add_lt_add_left
    have ld := fun k hk => loopStep_dec D .uns k s i.hu (fun _ => hk) hf
    generalize hm : locU D s = m
    cases hst : s.ustate <;> simp only [unsolicitedEventsService, hst] <;> simp only [locU, hst] at hm <;> subst hm
    · exact absurd hst hid
    · exact formatReadArgs_dec D s .uns i hst
    · exact formatTestArgs_dec D s .uns hst
    · exact ld .read (.inl rfl)
    · exact ld .test (.inr rfl)
    · exact ioWait_dec D s .uns (fun h => hw ⟨hst, h⟩)
    · exact ioWrite_dec D s .uns i hst hwr o
    · exact Nat.one_pos
    · exact Nat.one_pos
    · exact Nat.lt_of_lt_of_le (loc_startFormatRead D s .uns) (Nat.le_add_left _ _)
    · exact Nat.lt_of_lt_of_le (loc_startFormatTest D s .uns) (Nat.le_add_left _ _)

/-- the environment of a call in which the library is left to finish its work.  The handlers make no
API calls of their own: a nested trigger queues an event, and the measure rises. -/
structure TermIn (i : SvcIn) : Prop where
  rd : i.rd = none
  wr : i.wr = true
  lk : i.lock = 0
  ul : i.unlock = 0
  hc : Final i.hc.ret
  hu : Final i.hu.ret
  ahc : noApi i.hc.acts = true
  ahu : noApi i.hu.acts = true
  avc : noApi i.vc.acts = true
  avu : noApi i.vu.acts = true

/-- the invariants the decrease needs, and `nohold`: a command on hold stays there until the application
calls `cat_hold_exit` -/
structure Live (D : Desc) (s : St) : Prop where
  num : 0 < D.commandsNum
  wf : Wf D s
  ub : UbAll D s
  oob : OobAll D s
  hold : HoldCpl s
  nohold : s.state ≠ .hold

theorem Live.good {D : Desc} {s : St} (l : Live D s) : Good ⟨D, s⟩ := ⟨l.num, l.wf, l.ub, l.oob⟩

theorem Good.live {w : World} (g : Good w) (h : HoldCpl w.s) (n : w.s.state ≠ .hold) : Live w.D w.s :=
  ⟨g.num, g.wf, g.ub, g.oob, h, n⟩

/-- **One body of `cat_service`**: the invariants are kept, and either the call reports OK or the
measure has decreased. -/
theorem serviceBody_live (D : Desc) (s : St) (i : SvcIn) (t : TermIn i) (l : Live D s) :
    Live D (serviceBody D s i).1 ∧
    ((serviceBody D s i).2 = Gen.CAT_STATUS_OK ∨ mu D (serviceBody D s i).1 < mu D s) := by
  have hu4 : i.hu.ret ≠ 4 := t.hu.2.2
  have sg := (serviceBody_good (a := ⟨D, s⟩) i hu4 l.good).2
  have sh := serviceBody_holdCpl D s i hu4 l.hold
  by_cases q : Quiescent s
  · rw [serviceBody_quiescent_repeat D s i q t.rd] at sg sh ⊢
    exact ⟨sg.live sh l.nohold, .inl rfl⟩
  -- the unsolicited machine's step leaves the command machine as it is
  have ud := unsolicitedEventsService_dec D s i t.wr t.hu t.ahu t.avu l.oob.u
  have kc := unsolicitedEventsService_keepsC D s i hu4
  have kr := unsolicitedEventsService_keepsCR D s i
  unfold serviceBody at sg sh ⊢
  simp only at sg sh ⊢
  generalize (unsolicitedEventsService D s i).1 = s1 at ud kc kr sg sh
  simp only [KeepsCH, SameC'] at kc
  have mc1 : muC D s1 = muC D s := by simp only [muC, aftC, kc]
  have hold1 : HoldCpl s1 := by simpa only [HoldCpl, kc] using l.hold
  have nh1 : s1.state ≠ .hold := by simpa only [kc] using l.nohold
  have oc1 : OobF D s1 .cmd := l.oob.c.of_keepsC ⟨kc.1, kc.2.1⟩ kr
  have hi1 : s1.state = .searchCommand → s1.index < D.commandsNum :=
    fun h => (l.ub.1.of_keepsC ⟨kc.1, kc.2.1⟩).idx (.inr (.inl h))
  -- the command machine's step leaves the unsolicited machine and the queue as they are
  have cd := commandService_dec D s1 i t.wr t.hc hi1 oc1 nh1
  have rr := read_refused D s1 i
  have ku := commandService_keepsU D s1 i
  have crc := commandService_rc D s1 i t.ahc t.avc
  have cnh := commandService_nohold D s1 i t.hc.2.2 hold1 nh1
  generalize commandService D s1 i = r2 at cd rr ku crc cnh sg sh
  obtain ⟨s2, cr⟩ := r2
  simp only [KeepsU, SameU'] at ku crc
  have mu2 : muU D s2 = muU D s1 := by simp only [muU, locU, ku, crc]
  refine ⟨sg.live sh cnh, ?_⟩
  clear sg sh kc kr ku crc
  simp only [mu] at cd ⊢
  by_cases hr : Reading s1.state
  · obtain ⟨rfl, rfl⟩ := Prod.mk.inj (rr hr t.rd)
    rcases ud with hU | ⟨rfl, hU | hU⟩
    · exact .inr (by have : muC D (s1.emit (.rd none)) = muC D s1 := rfl; omega)
    · exact absurd ⟨hU.1, hU.2, hr⟩ q
    · rw [hU.2] at hr; exact absurd hr (by decide)
  · right
    rcases cd hr with hC | ⟨rfl, g1, g2⟩
    · rcases ud with hU | ⟨rfl, _⟩ <;> omega
    · rcases ud with hU | ⟨rfl, hU | hU⟩
      · omega
      · rw [hU.1] at g2; cases g2
      · rw [hU.2] at g1; cases g1

theorem Live.log {D : Desc} {s : St} (l : Live D s) (x : List Ev) : Live D { s with log := x } :=
  (l.good.still (s' := { s with log := x }) ⟨⟨by simp, by simp, by simp, by simp⟩, rfl, rfl⟩ (l.wf.ring.congr (by simp))).live
    l.hold l.nohold

theorem mu_clear (D : Desc) (s : St) : mu D ({ s with log := [] } : St) = mu D s := rfl
theorem mu_emit (D : Desc) (s : St) (e : Ev) : mu D (s.emit e) = mu D s := rfl

/-- **One call of `cat_service`** (mutex calls succeeding): OK, or the measure has decreased. -/
theorem service_live (D : Desc) (s : St) (i : SvcIn) (t : TermIn i) (l : Live D s) :
    Live D (service D s i).1 ∧ ((service D s i).2 = Gen.CAT_STATUS_OK ∨ mu D (service D s i).1 < mu D s) := by
  unfold service withMutex
  split
  · simp only [t.lk, t.ul, ne_eq, not_true_eq_false, if_false]
    have b := serviceBody_live D (s.emit (.lock 0)) i t (l.log _)
    exact ⟨b.1.log _, by rw [mu_emit, ← mu_emit D s (.lock 0)]; exact b.2⟩
  · exact serviceBody_live D s i t l

def runSvc (D : Desc) : St → List SvcIn → St × List Int
  | s, [] => (s, [])
  | s, i :: r =>
    let (s1, ret) := service D { s with log := [] } i
    let (s2, rs) := runSvc D s1 r
    (s2, ret :: rs)

theorem runOps_services (D : Desc) (is : List SvcIn) (s : St) :
    (runOps ⟨D, s⟩ (is.map .service)).2.map (·.1) = (runSvc D s is).2 ∧
    (runOps ⟨D, s⟩ (is.map .service)).1 = ⟨D, (runSvc D s is).1⟩ := by
  induction is generalizing s with
  | nil => simp [runOps, runSvc]
  | cons i r ih =>
    simp only [List.map_cons, runOps, runSvc, apply]
    have := ih (service D { s with log := [] } i).1
    exact ⟨by simp [this.1], this.2⟩

theorem runSvc_rest_stays (D : Desc) (is : List SvcIn) (s : St) (ht : ∀ i ∈ is, TermIn i) (q : Quiescent s) :
    Quiescent (runSvc D s is).1 := by
  induction is generalizing s with
  | nil => exact q
  | cons i r ih =>
    simp only [runSvc]
    have q0 : Quiescent ({ s with log := [] } : St) := by simpa [Quiescent] using q
    exact ih _ (fun j hj => ht j (by simp [hj])) (service_rest_stays D _ i q0 (ht i (by simp)).rd)

/-- **Liveness**: from any state in which no command is held, a run of `mu D s + 1` (or more) calls in
which no input arrives, the output accepts and the handlers give final answers contains a call that
reports OK — at the latest the one with index `mu D s` — and ends with both machines at rest. -/
theorem runSvc_live (D : Desc) (is : List SvcIn) (s : St) (ht : ∀ i ∈ is, TermIn i) (l : Live D s) (hlen : mu D s < is.length) :
    (∃ k, k ≤ mu D s ∧ (runSvc D s is).2[k]? = some Gen.CAT_STATUS_OK) ∧ Quiescent (runSvc D s is).1 := by
  induction is generalizing s with
  | nil => simp at hlen
  | cons i r ih =>
    have sv := service_live D { s with log := [] } i (ht i (by simp)) (l.log [])
    rw [mu_clear] at sv
    have hq := service_ok_quiescent D { s with log := [] } i
    simp only [runSvc]
    generalize service D { s with log := [] } i = r1 at sv hq
    obtain ⟨s1, ret⟩ := r1
    simp only at sv hq ⊢
    rcases sv.2 with h | h
    · exact ⟨⟨0, Nat.zero_le _, by simp [h]⟩, runSvc_rest_stays D r s1 (fun j hj => ht j (by simp [hj])) (hq h)⟩
    · obtain ⟨⟨k, hk, he⟩, q⟩ := ih s1 (fun j hj => ht j (by simp [hj])) sv.1 (by simp only [List.length_cons] at hlen; omega)
      exact ⟨⟨k + 1, by omega, by simpa using he⟩, q⟩

theorem stepsLeft_le (K ws pos : Nat) (src : WSrc) : stepsLeft K ws src pos ≤ FL K := by
  unfold stepsLeft FL
  have h1 : (3 - ws) * (K + 4) ≤ 3 * (K + 4) := Nat.mul_le_mul_right _ (by omega)
  cases src <;> simp only <;> omega

theorem listLeft_le (D : Desc) (index : Nat) (t : CmdType) : listLeft D index t ≤ D.commandsNum * D.PER + D.PER + D.ACKF + 1 := by
  unfold listLeft
  have h1 : (D.commandsNum - index - 1) * D.PER ≤ D.commandsNum * D.PER := Nat.mul_le_mul_right _ (by omega)
  have h2 : (6 - t.stage) * (D.FLR + 1) ≤ 6 * (D.FLR + 1) := Nat.mul_le_mul_right _ (by omega)
  have h3 : 6 * (D.FLR + 1) = D.PER := rfl
  omega

theorem muC_le (D : Desc) (s : St) : muC D s ≤ D.MUC := by
  -- the arms of `muC` in their order, each below one of three bounds: `h1`, `h2`, `fl`
  have h1 : D.commandsNum + 1 + D.SEARCH0 ≤ D.MUC := by unfold Desc.MUC; omega
  have h2 : D.FMT + 1 ≤ D.MUC := by unfold Desc.MUC; omega
  have ll := listLeft_le D s.index s.cmdType
  have fl : stepsLeft D.cmdCap s.writeState s.writeSrc s.position + aftC D s + 1 ≤ D.MUC := by
    have sl := stepsLeft_le D.cmdCap s.writeState s.position s.writeSrc
    have hR : D.FMR ≤ D.FMT := by simp +arith only [Desc.FMR, Desc.FMT, Desc.TL, Desc.RL]
    clear h1 h2
    unfold aftC aftOf Desc.MUC
    split <;> omega
  unfold muC
  split
  iterate 8 exact Nat.zero_le _
  iterate 2 exact Nat.le_trans (by unfold Desc.SEARCH0; omega) h1
  iterate 2 exact Nat.le_trans (by simp +arith only [Desc.SEARCH0]) h1
  iterate 3 exact Nat.le_trans (by simp only [Desc.FMT, Desc.TL, Desc.RL, Desc.WL]; omega) h2
  iterate 4 exact Nat.le_trans (by simp +arith only [Desc.FMT, Desc.TL, Desc.RL, Desc.WL, Desc.RUN]) h2
  · omega
  · omega
  iterate 4 exact Nat.le_trans (by simp +arith only [Desc.FMT, Desc.FMR, Desc.TL, Desc.RL]) h2
  · unfold Desc.MUC; omega

/-- **the measure is bounded**: a constant of the descriptor plus a constant per queued event -/
theorem mu_le (D : Desc) (s : St) : mu D s ≤ D.MUC + s.rcount * D.EV + FL D.unsCap + D.EV := by
  have hl : locU D s ≤ FL D.unsCap + D.EV := by
    have fl : stepsLeft D.unsCap s.uwriteState s.uwriteSrc s.uposition + aftU D s.uwriteStateAfter + 1 ≤ FL D.unsCap + D.EV := by
      have sl := stepsLeft_le D.unsCap s.uwriteState s.uposition s.uwriteSrc
      unfold aftU Desc.EV
      split <;> omega
    unfold locU
    split
    · exact Nat.zero_le _
    iterate 2 simp only [Desc.EV, Desc.FMU]; omega
    iterate 2 simp +arith only [Desc.EV, Desc.FMU]
    · omega
    · omega
    iterate 4 simp +arith only [Desc.EV]
  have hc := muC_le D s
  unfold mu muU
  omega

end Cat
