/-
  Formatting and parsing are mutually inverse (C07): the printers of the model against the
  grammar/value specifications, for all values.
-/
import CatVerif.Spec.Codec
import CatVerif.Proofs.ParseBuf
namespace Cat
open Spec

theorem digits_spec (D : Nat → List Byte) (f : Nat → Byte) (isD : Byte → Bool) (dv : Byte → Nat) (b : Nat) (hb : 1 < b)
    (hlt : ∀ n, n < b → D n = [f n]) (hge : ∀ n, ¬ n < b → D n = D (n / b) ++ [f (n % b)])
    (hf : ∀ d, d < b → isD (f d) = true ∧ dv (f d) = d) (n : Nat) :
    (∀ c ∈ D n, isD c = true) ∧ D n ≠ [] ∧ (D n).foldl (fun a c => a * b + dv c) 0 = n := by
  induction n using Nat.strongRecOn with
  | _ n ih =>
    by_cases h : n < b
    · rw [hlt n h]
      exact ⟨List.forall_mem_singleton.2 (hf n h).1, List.cons_ne_nil _ _, by simp [(hf n h).2]⟩
    · have hd := hf (n % b) (Nat.mod_lt n (by omega))
      obtain ⟨h1, _, h3⟩ := ih (n / b) (Nat.div_lt_self (by omega) hb)
      rw [hge n h]
      refine ⟨List.forall_mem_append.2 ⟨h1, List.forall_mem_singleton.2 hd.1⟩, by simp, ?_⟩
      rw [List.foldl_append, h3, List.foldl_cons, List.foldl_nil, hd.2, Nat.div_add_mod']

theorem decDigits_spec (n : Nat) : (∀ b ∈ decDigits n, isDigit b = true) ∧ decDigits n ≠ [] ∧ decValue (decDigits n) = n :=
  digits_spec decDigits (48 + ·) isDigit (· - 48) 10 (by decide) (fun n h => by rw [decDigits, dif_pos h])
    (fun n h => by rw [decDigits, dif_neg h]) (fun d h => by simp [isDigit]; omega) n

theorem hexDigitU_spec : ∀ d, d < 16 → isHexDigit (hexDigitU d) = true ∧ hexDigitValue (hexDigitU d) = d := by decide

theorem hexDigits_spec (n : Nat) : (∀ b ∈ hexDigits n, isHexDigit b = true) ∧ hexDigits n ≠ [] ∧ hexValue (hexDigits n) = n :=
  digits_spec hexDigits hexDigitU isHexDigit hexDigitValue 16 (by decide) (fun n h => by rw [hexDigits, dif_pos h])
    (fun n h => by rw [hexDigits, dif_neg h]) hexDigitU_spec n

/-- **unsigned decimal round trip**: the text printed for `n` is accepted and yields `n` -/
theorem rt_uint (n : Nat) (hn : n ≤ U64MAX) (rest : List Byte) (t : Byte) (ht : IsTerm t) :
    parseUIntDec (decDigits n ++ t :: rest) 0 false 0 =
      { ret := if t = 44 then 1 else 0, val := n, used := (decDigits n).length + 1 } := by
  have ⟨h1, h2, h3⟩ := decDigits_spec n
  rw [(parseUIntDec_spec (decDigits n) rest t ht (fun b hb => isDigit_field (h1 b hb))).1 ⟨⟨h2, h1⟩, by rw [h3]; exact hn⟩, h3]

/-- **signed decimal round trip**: `%d` of `v` parses back to sign and magnitude of `v` -/
theorem rt_int (v : Int) (hv : v.natAbs ≤ I64MAX) (rest : List Byte) (t : Byte) (ht : IsTerm t) :
    parseIntDec (fmtInt v ++ t :: rest) 0 0 false 0 =
      { ret := if t = 44 then 1 else 0, val := v.natAbs, neg := decide (v < 0), used := (fmtInt v).length + 1 } := by
  have ⟨h1, h2, h3⟩ := decDigits_spec v.natAbs
  have hf : ∀ b ∈ decDigits v.natAbs, b < 256 ∧ ¬ IsTerm b := fun b hb => isDigit_field (h1 b hb)
  unfold fmtInt
  by_cases hneg : v < 0
  · have hb : ∀ b ∈ 45 :: decDigits v.natAbs, b < 256 ∧ ¬ IsTerm b :=
      List.forall_mem_cons.2 ⟨by unfold IsTerm; omega, hf⟩
    rw [if_pos hneg, show (-v).toNat = v.natAbs by omega,
      (parseIntDec_spec _ rest t ht hb).1 ⟨⟨h2, h1⟩, by rw [intMag, h3]; exact hv⟩, intMag, intNeg, h3, decide_eq_true hneg]
  · rw [if_neg hneg, show v.toNat = v.natAbs by omega]
    -- the text begins with a digit, so it is read as unsigned
    cases hd : decDigits v.natAbs with
    | nil => exact absurd hd h2
    | cons c r =>
      rw [hd] at h1 h2 h3 hf
      have hc := isDigit_range (h1 c (by simp))
      have ⟨hI, hM, hN⟩ := intText_nosign c r (by omega) (by omega)
      rw [(parseIntDec_spec _ rest t ht hf).1 ⟨by rw [hI]; exact ⟨h2, h1⟩, by rw [hM, h3]; exact hv⟩, hM, hN, h3,
        decide_eq_false hneg]

theorem hexValue_zeros (k : Nat) (ds : List Byte) : hexValue (List.replicate k 48 ++ ds) = hexValue ds := by
  induction k with
  | zero => rfl
  | succ k ih => rw [List.replicate_succ, List.cons_append]; exact ih

theorem hexFixed_spec (w n : Nat) :
    (∀ b ∈ hexFixed w n, isHexDigit b = true) ∧ hexFixed w n ≠ [] ∧ hexValue (hexFixed w n) = n := by
  have ⟨h1, h2, h3⟩ := hexDigits_spec n
  exact ⟨List.forall_mem_append.2 ⟨fun b hb => by rw [(List.mem_replicate.1 hb).2]; rfl, h1⟩,
    fun h => h2 (List.append_eq_nil_iff.1 h).2, (hexValue_zeros _ _).trans h3⟩

/-- **hexadecimal round trip**: `0x%0wX` of `n` parses back to `n` -/
theorem rt_hex (w n : Nat) (hn : n ≤ U64MAX) (rest : List Byte) (t : Byte) (ht : IsTerm t) :
    parseNumHex (([48, 120] ++ hexFixed w n) ++ t :: rest) 0 0 0 =
      { ret := if t = 44 then 1 else 0, val := n, used := (hexFixed w n).length + 2 + 1 } := by
  have ⟨h1, h2, h3⟩ := hexFixed_spec w n
  have hb : ∀ b ∈ 48 :: 120 :: hexFixed w n, b < 256 ∧ ¬ IsTerm b :=
    List.forall_mem_cons.2 ⟨by unfold IsTerm; omega,
      List.forall_mem_cons.2 ⟨by unfold IsTerm; omega, fun b hb => isHexDigit_field (h1 b hb)⟩⟩
  exact ((parseNumHex_spec _ rest t ht hb).1 ⟨(isHexText_cons2 _ _ _).2 ⟨rfl, Or.inr rfl, h2, h1⟩, by rw [hexBody, h3]; exact hn⟩).trans
    (by rw [hexBody, h3]; rfl)

theorem hexFixed_byte (b : Nat) (hb : b < 256) : hexFixed 2 b = [hexDigitU (b / 16), hexDigitU (b % 16)] := by
  have hhi : hexDigits (b / 16) = [hexDigitU (b / 16)] := by rw [hexDigits, dif_pos (by omega)]
  by_cases h : b < 16
  · rw [hexFixed, hexDigits, dif_pos h, Nat.div_eq_of_lt h, Nat.mod_eq_of_lt h]; rfl
  · rw [hexFixed, hexDigits, dif_neg h, hhi]; rfl

/-- **byte-buffer round trip**: the bytes printed two hex digits each decode to themselves -/
theorem rt_bufhex (bs : List Byte) (hb : ∀ b ∈ bs, b < 256) : hexPairs (bs.flatMap (hexFixed 2)) = some bs := by
  unfold hexPairs
  induction bs with
  | nil => rfl
  | cons b r ih =>
    have ⟨hb0, hr⟩ := List.forall_mem_cons.1 hb
    have hi := hexDigitU_spec (b / 16) (by omega)
    have lo := hexDigitU_spec (b % 16) (by omega)
    rw [List.flatMap_cons, hexFixed_byte b hb0, List.cons_append, List.cons_append, List.nil_append, hexPairsAux, if_pos hi.1,
      hexPairsAux, if_pos lo.1, ih hr, hi.2, lo.2, Nat.div_add_mod']
    rfl

/-- **string round trip**: un-escaping the escaped text of a NUL-free string gives it back -/
theorem rt_string (s : List Byte) (h0 : ∀ b ∈ s, b ≠ 0) : unescape (escape s) = some s := by
  unfold unescape
  induction s with
  | nil => rfl
  | cons c r ih =>
    have ⟨hc, h0r⟩ := List.forall_mem_cons.1 h0
    have hr := ih h0r
    unfold escape
    simp only [hc, if_false]
    by_cases h92 : c = 92
    · subst h92; simp [unescapeAux, hr]
    · by_cases h34 : c = 34
      · subst h34; simp [unescapeAux, hr]
      · by_cases h10 : c = 10
        · subst h10; simp [unescapeAux, hr]
        · simp [h92, h34, h10, unescapeAux, hc, hr]

/-- the escaped text of a string never contains a bare quote or NUL, so it is a legal body -/
theorem escape_length_ge (s : List Byte) : (escape s).length ≥ 0 := Nat.zero_le _

end Cat
