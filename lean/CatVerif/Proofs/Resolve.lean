/-
  Name resolution (C02): a whole sweep of `update_command` over the table computes the match state
  of every command against the typed name, and the `search_command` loop selects the first full
  match, otherwise the unique partial match.
-/
import CatVerif.Proofs.Lanes
import CatVerif.Spec.Resolve
namespace Cat
open St

namespace Spec
/-- the match state the parser must hold for entry `j` once `typed` has been read: disabled
entries never match; before the first character every enabled entry is a candidate -/
def lane (D : Desc) (typed : List Byte) (j : Nat) : Nat :=
  if disabledByIndex D.groups j then 0 else if typed = [] then 1 else matchName (nameOf D j) typed
end Spec

def Lanes (D : Desc) (s : St) (typed : List Byte) : Prop :=
  ∀ j, j < D.commandsNum → laneOf D s j = Spec.lane D typed j

theorem Lanes.congr {D : Desc} {a b : St} {typed : List Byte} (h : a.buf = b.buf) (hl : Lanes D b typed) :
    Lanes D a typed :=
  fun j hj => (laneOf_congr D a b j h).trans (hl j hj)

theorem stepMatch_lane (D : Desc) (typed : List Byte) (ch : Byte) (k : Nat) :
    stepMatch (Spec.lane D typed k) (nameOf D k) (typed.length + 1) ch = Spec.lane D (typed ++ [ch]) k := by
  unfold Spec.lane
  cases disabledByIndex D.groups k
  · simp only [Bool.false_eq_true, if_false, List.append_eq_nil_iff, List.cons_ne_nil, and_false]
    by_cases ht : typed = []
    · subst ht
      simp only [if_true, List.length_nil, Nat.zero_add, List.nil_append]
      by_cases hn : nameOf D k = []
      · rw [hn]; simp [stepMatch, Spec.matchName]
      · have := stepMatch_spec (nameOf D k) [] ch
        rw [matchName_nil, if_neg hn] at this
        simpa using this
    · rw [if_neg ht]; exact stepMatch_spec _ typed ch
  · simp [stepMatch]

theorem laneOf_chkUb (D : Desc) (s : St) (c : Bool) (j : Nat) : laneOf D (s.chkUb c) j = laneOf D s j :=
  laneOf_congr D _ s j (by simp)

theorem updateCommand_laneOf (D : Desc) (s : St) (j : Nat)
    (hi : s.index / 4 < D.cmdCap) (hl : s.index / 4 < s.buf.length) :
    laneOf D (updateCommand D s).1 j =
      if j = s.index then stepMatch (laneOf D s s.index) (nameOf D s.index) s.length s.currentChar
      else laneOf D s j := by
  unfold updateCommand
  rw [updateAdvance_lanes, updateLane_laneOf D _ j (by simpa using hi) (by simpa using hl)]
  simp only [chkUb_ctl, laneOf_chkUb]

theorem updateCommand_inner (D : Desc) (s : St) (h : s.index + 1 < D.commandsNum) :
    (updateCommand D s).1.index = s.index + 1 ∧ (updateCommand D s).1.state = s.state ∧
    (updateCommand D s).1.cmdType = s.cmdType := by
  unfold updateCommand updateAdvance
  simp [Nat.not_le.mpr h]

theorem updateCommand_last (D : Desc) (s : St) (h : s.index + 1 = D.commandsNum) :
    (updateCommand D s).1.index = 0 ∧
    (((updateCommand D s).1.state = .parseCommandChar ∧ (updateCommand D s).1.cmdType = s.cmdType) ∨
     ((updateCommand D s).1.state = .searchCommand ∧ (updateCommand D s).1.cmdType = .write ∧
      (updateCommand D s).1.partialCntr = 0 ∧ (updateCommand D s).1.cmd = none)) := by
  unfold updateCommand updateAdvance
  simp only [updateLane_frame, chkUb_ctl, h, ge_iff_le, Nat.le_refl, if_true, prepareSearchCommand]
  split <;> simp

/-- `n` consecutive `update_command` steps (the parser stays in `UPDATE_COMMAND_STATE` meanwhile) -/
def updateIter (D : Desc) : Nat → St → St
  | 0, s => s
  | n + 1, s => (updateCommand D (updateIter D n s)).1

theorem updateIter_partial (D : Desc) (s : St)
    (hcap : D.commandsNum ≤ 4 * D.cmdCap) (hbuf : D.cmdCap ≤ s.buf.length) (hi0 : s.index = 0) :
    ∀ n, n ≤ D.commandsNum →
    ((updateIter D n s).length = s.length ∧ (updateIter D n s).currentChar = s.currentChar ∧
     (updateIter D n s).buf.length = s.buf.length ∧
     ∀ j, laneOf D (updateIter D n s) j =
       if j < n then stepMatch (laneOf D s j) (nameOf D j) s.length s.currentChar else laneOf D s j) ∧
    (n < D.commandsNum →
      (updateIter D n s).index = n ∧ (updateIter D n s).state = s.state ∧ (updateIter D n s).cmdType = s.cmdType) := by
  intro n
  induction n with
  | zero =>
    intro _
    exact ⟨⟨rfl, rfl, rfl, fun j => by rw [if_neg (Nat.not_lt_zero j)]; rfl⟩, fun _ => ⟨hi0, rfl, rfl⟩⟩
  | succ n ih =>
    intro hn
    have ⟨⟨a, b, c, d⟩, e⟩ := ih (by omega)
    have ⟨e1, e2, e3⟩ := e (by omega)
    simp only [updateIter]
    refine ⟨⟨by simp [a], by simp [b], by simp [c], ?_⟩, ?_⟩
    · intro j
      rw [updateCommand_laneOf D _ j (by omega) (by omega), e1, d n, if_neg (Nat.lt_irrefl n), a, b, d j]
      by_cases hjn : j = n
      · rw [if_pos hjn, if_pos (by omega), hjn]
      · simp only [if_neg hjn, show j < n + 1 ↔ j < n by omega]
    · intro hlt
      have ⟨g1, g2, g3⟩ := updateCommand_inner D (updateIter D n s) (by omega)
      exact ⟨by rw [g1, e1], by rw [g2, e2], by rw [g3, e3]⟩

/-- **A whole sweep of `update_command` computes the match states for one more character**; after it
the parser is reading the name again or (an implicit-write command was matched in full) starts the
search as a WRITE request. -/
theorem sweep_total (D : Desc) (typed : List Byte) (ch : Byte) (s : St)
    (hcap : D.commandsNum ≤ 4 * D.cmdCap) (hbuf : D.cmdCap ≤ s.buf.length) (hnum : 0 < D.commandsNum)
    (hlen : s.length = typed.length + 1) (hch : s.currentChar = ch) (hi0 : s.index = 0)
    (h : Lanes D s typed) :
    let s' := updateIter D D.commandsNum s
    Lanes D s' (typed ++ [ch]) ∧ s'.index = 0 ∧ s'.length = s.length ∧ s'.buf.length = s.buf.length ∧
    ((s'.state = .parseCommandChar ∧ s'.cmdType = s.cmdType) ∨
     (s'.state = .searchCommand ∧ s'.cmdType = .write ∧ s'.partialCntr = 0 ∧ s'.cmd = none)) := by
  have ⟨⟨a, _, c, d⟩, _⟩ := updateIter_partial D s hcap hbuf hi0 D.commandsNum (Nat.le_refl _)
  obtain ⟨m, hm⟩ : ∃ m, D.commandsNum = m + 1 := ⟨D.commandsNum - 1, by omega⟩
  have ⟨e1, _, e3⟩ := (updateIter_partial D s hcap hbuf hi0 m (by omega)).2 (by omega)
  have hl := updateCommand_last D (updateIter D m s) (by omega)
  refine ⟨?_, ?_, a, c, ?_⟩
  · intro j hj
    rw [d j, if_pos hj, h j hj, hlen, hch]
    exact stepMatch_lane D typed ch j
  · rw [hm]; exact hl.1
  · rw [hm]; rw [e3] at hl; exact hl.2

def searchIter (D : Desc) : Nat → St → St
  | 0, s => s
  | f + 1, s => if s.state = .searchCommand then searchIter D f (searchCommand D s).1 else s

def NotFound (s : St) : Prop := s.state = .commandNotFound ∨ s.state = .error

/-- `early`: a second candidate at the last entry ends the search at once; `nf`: how the search gives up
depends on whether the line has ended. -/
theorem searchCommand_regs (D : Desc) (s : St) :
    let st := laneOf D s s.index
    let early := (st = 1 ∧ s.cmd.isSome) ∧ s.index + 1 = D.commandsNum
    let cmd' := if st = 1 then some s.index else s.cmd
    let cnt' := if st = 1 then s.partialCntr + 1 else s.partialCntr
    let nf : CState := if s.currentChar = 10 then .commandNotFound else .error
    (searchCommand D s).1.cmd = (if early then s.cmd else if st = 2 then some s.index else cmd') ∧
    (searchCommand D s).1.partialCntr = (if early then s.partialCntr else if st = 2 then s.partialCntr else cnt') ∧
    (searchCommand D s).1.index = (if early then s.index else if st = 2 then s.index else s.index + 1) ∧
    (searchCommand D s).1.state =
      (if early then nf else if st = 2 then .commandFound
       else if s.index + 1 ≥ D.commandsNum then
         (if cmd'.isNone then nf else if cnt' = 1 then .commandFound else nf)
       else s.state) := by
  obtain ⟨c, hc⟩ := getCmdState_eq D (s.chkUb (decide (s.index < D.commandsNum))) s.index
  rw [laneOf_chkUb] at hc
  -- push the four projections through the branches of `search_command`
  simp only [searchCommand, chkUb_ctl, chk_ctl, hc, notFoundOrError, apply_ite Prod.fst, apply_ite St.cmd,
    apply_ite St.state, apply_ite St.partialCntr, apply_ite St.index, apply_ite St.currentChar, ite_self,
    beq_iff_eq, Bool.and_eq_true, and_self]

theorem searchCommand_cmd (D : Desc) (s : St) :
    (searchCommand D s).1.cmd = s.cmd ∨
    ((searchCommand D s).1.cmd = some s.index ∧ laneOf D s s.index ≠ 0) := by
  rw [(searchCommand_regs D s).1]
  (repeat' split) <;> simp <;> omega

theorem searchIter_stop (D : Desc) (f : Nat) (s : St) (h : s.state ≠ .searchCommand) : searchIter D f s = s := by
  cases f <;> simp [searchIter, h]

theorem NotFound.of_state {s : St} {c : Byte} (h : s.state = if c = 10 then .commandNotFound else .error) :
    NotFound s := by
  unfold NotFound; rw [h]; by_cases h10 : c = 10 <;> simp [h10]

/-- **The search loop computes `resolveFrom`.** -/
theorem searchIter_spec (D : Desc) (L : Nat → Nat) : ∀ (f : Nat) (s : St),
    s.state = .searchCommand → s.index + f = D.commandsNum → 0 < f →
    (∀ j, j < D.commandsNum → laneOf D s j = L j) → (s.cmd.isSome ↔ s.partialCntr ≥ 1) →
    (searchIter D f s).buf = s.buf ∧ (searchIter D f s).cmdType = s.cmdType ∧
    (∀ j, Spec.resolveFrom L f s.index s.partialCntr s.cmd = some j →
        (searchIter D f s).state = .commandFound ∧ (searchIter D f s).cmd = some j) ∧
    (Spec.resolveFrom L f s.index s.partialCntr s.cmd = none → NotFound (searchIter D f s)) := by
  intro f
  induction f with
  | zero => intro s _ _ h; omega
  | succ f ih =>
    intro s hst hidx _ hL hinv
    have ⟨r1, r2, r3, r4⟩ := searchCommand_regs D s
    have b1 : (searchCommand D s).1.buf = s.buf := by simp
    have b2 : (searchCommand D s).1.cmdType = s.cmdType := by simp
    have hL' : ∀ j, j < D.commandsNum → laneOf D (searchCommand D s).1 j = L j := fun j => by
      rw [laneOf_congr D _ s j b1]; exact hL j
    simp only [hL s.index (by omega)] at r1 r2 r3 r4
    simp only [searchIter, hst, if_true, Spec.resolveFrom]
    by_cases h2 : L s.index = 2
    · -- a full match ends the search
      simp [h2] at r1 r4
      rw [searchIter_stop D f _ (by rw [r4]; decide), if_pos h2]
      exact ⟨b1, b2, fun j hj => by cases hj; exact ⟨r4, r1⟩, fun h => by cases h⟩
    rw [if_neg h2]
    by_cases he : (L s.index = 1 ∧ s.cmd.isSome) ∧ s.index + 1 = D.commandsNum
    · -- a second candidate at the last entry: the count would pass 1
      rw [if_pos he] at r4
      obtain rfl : f = 0 := by omega
      have : ¬ s.partialCntr + 1 = 1 := by have := hinv.1 he.1.2; omega
      rw [if_pos he.1.1]
      simp only [searchIter, Spec.resolveFrom, this, if_false]
      exact ⟨b1, b2, (fun j h => by cases h), fun _ => NotFound.of_state r4⟩
    · -- the scan goes on with the registers `cmd'`, `cnt'`
      simp only [he, h2, if_false] at r1 r2 r3 r4
      generalize hcmd : (if L s.index = 1 then some s.index else s.cmd) = cmd' at r1 r4
      generalize hcnt : (if L s.index = 1 then s.partialCntr + 1 else s.partialCntr) = cnt' at r2 r4
      have hres : (if L s.index = 1 then Spec.resolveFrom L f (s.index + 1) (s.partialCntr + 1) (some s.index)
          else Spec.resolveFrom L f (s.index + 1) s.partialCntr s.cmd) = Spec.resolveFrom L f (s.index + 1) cnt' cmd' := by
        rw [← hcmd, ← hcnt]; split <;> rfl
      have hinv' : cmd'.isSome ↔ cnt' ≥ 1 := by
        rw [← hcmd, ← hcnt]; split
        · simp
        · exact hinv
      rw [hres]
      by_cases hf : f = 0
      · -- that was the last entry: the verdict
        subst hf
        rw [if_pos (by omega)] at r4
        simp only [searchIter, Spec.resolveFrom]
        by_cases hc1 : cnt' = 1
        · have hs : cmd'.isSome = true := hinv'.2 (by omega)
          have hn : ¬ cmd'.isNone = true := fun h => by rw [Option.isNone_iff_eq_none.mp h] at hs; cases hs
          rw [if_pos hc1]
          rw [if_neg hn, if_pos hc1] at r4
          exact ⟨b1, b2, fun j hj => ⟨r4, by rw [r1, hj]⟩, fun hnone => by rw [hnone] at hs; cases hs⟩
        · rw [if_neg hc1]
          rw [if_neg hc1, ite_self] at r4
          exact ⟨b1, b2, (fun j h => by cases h), fun _ => NotFound.of_state r4⟩
      · rw [if_neg (by omega)] at r4
        have := ih (searchCommand D s).1 (by rw [r4, hst]) (by rw [r3]; omega) (by omega) hL' (by rw [r1, r2]; exact hinv')
        rw [r1, r2, r3, b1, b2] at this
        exact this

/-- **The whole search** ends in `COMMAND_FOUND` with exactly the entry `Spec.resolve` selects, or gives
up when `Spec.resolve` selects nothing; the request type is untouched. -/
theorem search_total (D : Desc) (typed : List Byte) (s : St) (hnum : 0 < D.commandsNum)
    (hst : s.state = .searchCommand) (hi0 : s.index = 0) (hc0 : s.partialCntr = 0) (hcmd : s.cmd = none)
    (h : Lanes D s typed) :
    let s' := searchIter D D.commandsNum s
    s'.cmdType = s.cmdType ∧ s'.buf = s.buf ∧
    (∀ j, Spec.resolve (Spec.lane D typed) D.commandsNum = some j → s'.state = .commandFound ∧ s'.cmd = some j) ∧
    (Spec.resolve (Spec.lane D typed) D.commandsNum = none → NotFound s') := by
  have := searchIter_spec D (Spec.lane D typed) D.commandsNum s hst (by omega) hnum h (by rw [hcmd, hc0]; simp)
  rw [hi0, hc0, hcmd] at this
  exact ⟨this.2.1, this.1, this.2.2⟩

theorem prepareParseCommand_lanes (D : Desc) (s : St)
    (hcap : D.commandsNum ≤ 4 * D.cmdCap) (hbuf : D.cmdCap ≤ s.buf.length) :
    Lanes D (prepareParseCommand D s) [] := by
  intro j hj
  unfold Spec.lane
  cases hd : disabledByIndex D.groups j
  · simp only [Bool.false_eq_true, if_false, if_true]
    have hq : j / 4 < D.cmdCap := by omega
    have := getB_writeB_in D .cmd (List.replicate D.cmdCap lanesInit) s 0 (by simp [Desc.capOf]) hbuf (j / 4) (by simpa using hq)
    simp only [Nat.zero_add, List.getD, List.getElem?_replicate, hq, if_true, Option.getD_some] at this
    rw [laneOf_enabled D _ j hd]
    exact (congrArg (laneGet · j) this).trans (lanesInit_all_partial j)
  · simp [laneOf_disabled D _ j hd]

end Cat
