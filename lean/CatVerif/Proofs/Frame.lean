/-
  Frame lemmas: which parts of `St` a function of the model leaves unchanged, and which classes of events it can log.
  One `@[simp]` lemma per function, a conjunction of field equations behind reducible abbreviations, so that `simp`
  splits it into rewrite rules (`(g …).field` becomes `s.field`, `tr c (g …).log` becomes `tr c s.log`); whatever is
  not mentioned may change.  Proving one: unfold `g`, take its `if`s apart (`split` for a small function, `rel_ite` for a
  large one, see `Proofs/Ite.lean`), close each leaf by `simp` with the lemmas of the functions it calls.  Lemmas that need a
  hypothesis (`loopStep_*_frame`, `reader_frame`, …) are not simp lemmas.  Here: the vocabulary, the leaves, and what `getB`
  reads back after `setB` and `writeB`.
-/
import CatVerif.Proofs.Log
import CatVerif.Proofs.Ite
namespace Cat
open St

/-- control fields of the command machine other than `position` -/
@[simp] abbrev SameC' (s s' : St) : Prop :=
  s'.index = s.index ∧ s'.partialCntr = s.partialCntr ∧ s'.length = s.length ∧
  s'.writeSize = s.writeSize ∧ s'.cmd = s.cmd ∧ s'.cmdType = s.cmdType ∧
  s'.currentChar = s.currentChar ∧ s'.state = s.state ∧ s'.crFlag = s.crFlag ∧
  s'.writeSrc = s.writeSrc ∧ s'.writeState = s.writeState ∧
  s'.writeStateAfter = s.writeStateAfter ∧ s'.implicitWriteFlag = s.implicitWriteFlag

/-- control fields of the unsolicited machine other than `uposition` -/
@[simp] abbrev SameU' (s s' : St) : Prop :=
  s'.ustate = s.ustate ∧ s'.uindex = s.uindex ∧ s'.ucmd = s.ucmd ∧
  s'.ucmdType = s.ucmdType ∧ s'.uwriteSrc = s.uwriteSrc ∧ s'.uwriteState = s.uwriteState ∧
  s'.uwriteStateAfter = s.uwriteStateAfter

@[simp] abbrev SameH (s s' : St) : Prop := s'.holdFlag = s.holdFlag ∧ s'.holdExitStatus = s.holdExitStatus

@[simp] abbrev SameR (s s' : St) : Prop :=
  s'.ring = s.ring ∧ s'.rtail = s.rtail ∧ s'.rhead = s.rhead ∧ s'.rcount = s.rcount

@[simp] abbrev SamePos (s s' : St) : Prop := s'.position = s.position ∧ s'.uposition = s.uposition

/-- every control field unchanged (buffers, variable storage, log and fault flags may differ) -/
@[simp] abbrev SameCtl (s s' : St) : Prop :=
  SameC' s s' ∧ SameU' s s' ∧ SameH s s' ∧ SameR s s' ∧ SamePos s s'

@[simp] abbrev SameCtlNP (s s' : St) : Prop := SameC' s s' ∧ SameU' s s' ∧ SameH s s' ∧ SameR s s'

@[simp] abbrev SameMem (s s' : St) : Prop := s'.mem = s.mem
@[simp] abbrev SameBuf (s s' : St) : Prop := s'.buf = s.buf ∧ s'.ubuf = s.ubuf
@[simp] abbrev SameLog (s s' : St) : Prop := s'.log = s.log

/-- the unsolicited machine's control fields and position -/
@[simp] abbrev KeepsU (s s' : St) : Prop := SameU' s s' ∧ s'.uposition = s.uposition
/-- the command machine's control fields and position -/
@[simp] abbrev KeepsC (s s' : St) : Prop := SameC' s s' ∧ s'.position = s.position

/-- everything outside the command region is unchanged -/
@[simp] abbrev KeepsUR (D : Desc) (s s' : St) : Prop :=
  s'.ubuf = s.ubuf ∧ s'.buf.drop D.cmdCap = s.buf.drop D.cmdCap ∧ s'.buf.length = s.buf.length

/-- the command region is unchanged -/
@[simp] abbrev KeepsCR (D : Desc) (s s' : St) : Prop :=
  s'.buf.take D.cmdCap = s.buf.take D.cmdCap ∧ s'.buf.length = s.buf.length ∧ s'.ubuf.length = s.ubuf.length

/-- the lengths of all storage blocks are unchanged -/
@[simp] abbrev LenE (s s' : St) : Prop := s'.mem.map List.length = s.mem.map List.length

/-- the fields of the command machine that describe the line in progress: everything in `SameC'`
except `state` and the three fields of the output cursor -/
@[simp] abbrev SameLine (s s' : St) : Prop :=
  s'.index = s.index ∧ s'.partialCntr = s.partialCntr ∧ s'.length = s.length ∧
  s'.writeSize = s.writeSize ∧ s'.cmd = s.cmd ∧ s'.cmdType = s.cmdType ∧
  s'.currentChar = s.currentChar ∧ s'.crFlag = s.crFlag ∧ s'.implicitWriteFlag = s.implicitWriteFlag

/-- the fields of the unsolicited machine that describe the event in progress -/
@[simp] abbrev SameEvt (s s' : St) : Prop := s'.uindex = s.uindex ∧ s'.ucmd = s.ucmd ∧ s'.ucmdType = s.ucmdType

/-- what the two machines share, apart from buffers and log -/
@[simp] abbrev SameShared (s s' : St) : Prop := SameH s s' ∧ SameR s s' ∧ SameMem s s'

/-- `OwnC` / `OwnU`: a callback-free function of one machine changes at most that machine's own control fields and
cursor, bytes of its own region, the fault flags and the log.  `CtlC` / `CtlU`: one that neither stores nor checks
anything changes control fields and log only. -/
@[simp] abbrev OwnC (D : Desc) (s s' : St) : Prop := KeepsU s s' ∧ KeepsUR D s s' ∧ SameShared s s'

@[simp] abbrev OwnU (D : Desc) (s s' : St) : Prop := KeepsC s s' ∧ KeepsCR D s s' ∧ SameShared s s'

@[simp] abbrev CtlC (s s' : St) : Prop := KeepsU s s' ∧ SameBuf s s' ∧ SameShared s s' ∧ s'.oob = s.oob ∧ s'.ub = s.ub

@[simp] abbrev CtlU (s s' : St) : Prop := KeepsC s s' ∧ SameBuf s s' ∧ SameShared s s' ∧ s'.oob = s.oob ∧ s'.ub = s.ub

@[simp] theorem emit_ctl (s : St) (e : Ev) : SameCtl s (s.emit e) ∧ SameMem s (s.emit e) ∧ SameBuf s (s.emit e) := by
  simp [St.emit]
@[simp] theorem emit_log (s : St) (e : Ev) : (s.emit e).log = s.log ++ [e] := rfl
@[simp] theorem emit_faults (s : St) (e : Ev) : (s.emit e).oob = s.oob ∧ (s.emit e).ub = s.ub := by simp [St.emit]

@[simp] theorem chk_ctl (s : St) (c : Bool) :
    SameCtl s (s.chk c) ∧ SameMem s (s.chk c) ∧ SameBuf s (s.chk c) ∧ SameLog s (s.chk c) ∧ (s.chk c).ub = s.ub := by
  unfold St.chk; split <;> simp
@[simp] theorem chkUb_ctl (s : St) (c : Bool) :
    SameCtl s (s.chkUb c) ∧ SameMem s (s.chkUb c) ∧ SameBuf s (s.chkUb c) ∧ SameLog s (s.chkUb c) ∧ (s.chkUb c).oob = s.oob := by
  unfold St.chkUb; split <;> simp

theorem unsBase_eq_cmdCap (D : Desc) (h : D.unsBuf.isSome = false) : D.unsBase = D.cmdCap := by
  simp [Desc.unsBase, Desc.cmdCap, Gen.get_unsolicited_buf_offset, Gen.get_atcmd_buf_size, h]

@[simp] theorem setB_ctl (D : Desc) (s : St) (f : Fsm) (i v : Nat) :
    SameCtl s (setB D s f i v) ∧ SameMem s (setB D s f i v) ∧ SameLog s (setB D s f i v) ∧ (setB D s f i v).ub = s.ub := by
  unfold setB; split
  · cases f <;> simp <;> split <;> simp
  · simp

@[simp] theorem setB_cmd_UR (D : Desc) (s : St) (i : Nat) (v : Byte) : KeepsUR D s (setB D s .cmd i v) := by
  unfold setB
  split
  · rename_i h
    have h' : i < D.cmdCap := h
    simp [List.drop_set, h']
  · simp

@[simp] theorem setB_uns_CR (D : Desc) (s : St) (i : Nat) (v : Byte) : KeepsCR D s (setB D s .uns i v) := by
  unfold setB
  split
  · cases hu : D.unsBuf.isSome
    · have e := unsBase_eq_cmdCap D hu
      simp [List.take_set, e]
      exact List.set_eq_of_length_le (by simp; omega)
    · simp
  · simp

@[simp] theorem writeB_ctl (D : Desc) (f : Fsm) (bs : List Byte) : ∀ (s : St) (i : Nat),
    SameCtl s (writeB D s f i bs) ∧ SameMem s (writeB D s f i bs) ∧ SameLog s (writeB D s f i bs) ∧ (writeB D s f i bs).ub = s.ub := by
  induction bs with
  | nil => intro s i; simp [writeB]
  | cons b r ih => intro s i; simp [writeB, ih]

@[simp] theorem writeB_reg (D : Desc) (bs : List Byte) : ∀ (s : St) (i : Nat),
    KeepsUR D s (writeB D s .cmd i bs) ∧ KeepsCR D s (writeB D s .uns i bs) := by
  induction bs with
  | nil => intro s i; simp [writeB]
  | cons b r ih => intro s i; simp [writeB, ih]

/-- the unsolicited region really is as long as declared -/
def BufOkU (D : Desc) (s : St) : Prop :=
  if D.unsBuf.isSome then D.unsCap ≤ s.ubuf.length else D.unsBase + D.unsCap ≤ s.buf.length

def BufLen (D : Desc) (s : St) : Fsm → Prop
  | .cmd => D.cmdCap ≤ s.buf.length
  | .uns => BufOkU D s

theorem BufLen.lengths {D : Desc} {s s' : St} {f : Fsm} (h : BufLen D s f) (h1 : s'.buf.length = s.buf.length)
    (h2 : s'.ubuf.length = s.ubuf.length) : BufLen D s' f := by
  cases f
  · simp only [BufLen] at h ⊢; rw [h1]; exact h
  · simp only [BufLen, BufOkU] at h ⊢; rw [h1, h2]; exact h

theorem getB_setB_ne (D : Desc) (s : St) (f : Fsm) (i v j : Nat) (h : j ≠ i) :
    getB D (setB D s f i v) f j = getB D s f j := by
  have h' : i ≠ j := Ne.symm h
  cases f
  · simp only [setB, getB]
    by_cases hc : i < D.capOf .cmd
    · simp [hc, List.getD, h']
    · simp [hc]
  · simp only [setB, getB]
    by_cases hc : i < D.capOf .uns
    · cases hu : D.unsBuf.isSome <;> simp [hc, List.getD, h']
    · simp [hc]

theorem getB_setB_eq (D : Desc) (s : St) (f : Fsm) (i v : Nat) (hi : i < D.capOf f) (hb : BufLen D s f) :
    getB D (setB D s f i v) f i = v := by
  cases f
  · have h : i < s.buf.length := Nat.lt_of_lt_of_le hi hb
    simp [setB, getB, hi, List.getD, h]
  · have hi' : i < D.unsCap := hi
    simp only [BufLen, BufOkU] at hb
    cases hu : D.unsBuf.isSome <;> simp only [hu, Bool.false_eq_true, if_false, if_true] at hb
    · have h : D.unsBase + i < s.buf.length := by omega
      simp [setB, getB, hi, hu, List.getD, h]
    · have h : i < s.ubuf.length := by omega
      simp [setB, getB, hi, hu, List.getD, h]

theorem getB_writeB_out (D : Desc) (f : Fsm) (bs : List Byte) : ∀ (s : St) (i j : Nat), (j < i ∨ i + bs.length ≤ j) →
    getB D (writeB D s f i bs) f j = getB D s f j := by
  induction bs with
  | nil => intro s i j _; rfl
  | cons b r ih =>
    intro s i j h
    simp only [writeB]
    rw [ih _ _ _ (by simp only [List.length_cons] at h; omega)]
    exact getB_setB_ne D s f i b j (by simp only [List.length_cons] at h; omega)

theorem getB_writeB_in (D : Desc) (f : Fsm) : ∀ (bs : List Byte) (s : St) (i0 : Nat), i0 + bs.length ≤ D.capOf f → BufLen D s f →
    ∀ k, k < bs.length → getB D (writeB D s f i0 bs) f (i0 + k) = bs.getD k 0 := by
  intro bs
  induction bs with
  | nil => intro s i0 _ _ k hk; simp at hk
  | cons b r ih =>
    intro s i0 hc hb k hk
    simp only [List.length_cons] at hc hk
    simp only [writeB]
    cases k with
    | zero =>
      rw [Nat.add_zero, getB_writeB_out D f r _ _ _ (Or.inl (by omega))]
      simpa using getB_setB_eq D s f i0 b (by omega) hb
    | succ k =>
      have := ih (St.setB D s f i0 b) (i0 + 1) (by omega) (hb.lengths (by cases f <;> simp) (by cases f <;> simp)) k (by omega)
      rw [show i0 + (k + 1) = i0 + 1 + k by omega]
      simpa using this

@[simp] theorem strncpyC_ctl (D : Desc) (s : St) (str : List Byte) :
    SameCtl s (strncpyC D s str) ∧ SameMem s (strncpyC D s str) ∧ SameLog s (strncpyC D s str) ∧
    (strncpyC D s str).ub = s.ub ∧ KeepsUR D s (strncpyC D s str) := by
  unfold strncpyC; simp

@[simp] theorem setPos_frame (s : St) (f : Fsm) (n : Nat) :
    SameCtlNP s (s.setPos f n) ∧ SameMem s (s.setPos f n) ∧ SameBuf s (s.setPos f n) ∧ SameLog s (s.setPos f n)
    ∧ (s.setPos f n).oob = s.oob ∧ (s.setPos f n).ub = s.ub := by
  cases f <;> simp [St.setPos]

@[simp] theorem setPos_pos (s : St) (f : Fsm) (n : Nat) : (s.setPos f n).pos f = n := by
  cases f <;> simp [St.setPos, St.pos]

@[simp] theorem setPos_cmdOf (s : St) (f : Fsm) (n : Nat) : (s.setPos f n).cmdOf f = s.cmdOf f := by cases f <;> rfl

@[simp] theorem setPos_cmd (s : St) (n : Nat) : (s.setPos .cmd n).position = n ∧ (s.setPos .cmd n).uposition = s.uposition := by
  simp [St.setPos]
@[simp] theorem setPos_uns (s : St) (n : Nat) : (s.setPos .uns n).uposition = n ∧ (s.setPos .uns n).position = s.position := by
  simp [St.setPos]

@[simp] theorem setIdx_frame (s : St) (f : Fsm) (n : Nat) :
    SameH s (s.setIdx f n) ∧ SameR s (s.setIdx f n) ∧ SamePos s (s.setIdx f n) ∧ SameMem s (s.setIdx f n) ∧
    SameBuf s (s.setIdx f n) ∧ SameLog s (s.setIdx f n) ∧ (s.setIdx f n).oob = s.oob ∧ (s.setIdx f n).ub = s.ub ∧
    (s.setIdx f n).currentChar = s.currentChar := by
  cases f <;> simp [St.setIdx]

theorem map_length_set_self (m : List (List Nat)) (slot : Nat) (x : List Nat) (h : x.length = (m.getD slot []).length) :
    (m.set slot x).map List.length = m.map List.length := by
  rw [List.map_set]
  apply List.ext_getElem?
  intro k
  rw [List.getElem?_set]
  split
  · rename_i e
    subst e
    split
    · rename_i hk
      simp only [List.length_map] at hk
      simp [List.getD, List.getElem?_eq_getElem hk] at h
      simp [List.getElem?_eq_getElem hk, h]
    · rename_i hk
      simp only [List.length_map] at hk
      simp [List.getElem?_eq_none (Nat.le_of_not_lt hk)]
  · rfl

theorem poke_lenE (s : St) (slot off : Nat) (bs : List Byte) (h : off + bs.length ≤ (s.slotGet slot).length) :
    LenE s { s with mem := s.mem.set slot ((s.slotGet slot).take off ++ bs ++ (s.slotGet slot).drop (off + bs.length)) } := by
  simp only [LenE]
  exact map_length_set_self s.mem slot _ (by simp [St.slotGet] at h ⊢; omega)

@[simp] theorem slotWrite_ctl (slot : Nat) (bs : List Byte) : ∀ (s : St) (off : Nat),
    SameCtl s (slotWrite s slot off bs) ∧ SameBuf s (slotWrite s slot off bs) ∧ LenE s (slotWrite s slot off bs) ∧
    (slotWrite s slot off bs).ub = s.ub ∧ LogsOnly [.mem] s (slotWrite s slot off bs) := by
  induction bs with
  | nil => intro s off; simp [slotWrite]
  | cons b r ih =>
    intro s off
    simp only [slotWrite]
    split
    · have l := map_length_set_self s.mem slot ((s.slotGet slot).set off b) (by simp [St.slotGet])
      simp +contextual [ih, cls, l]
    · simp +contextual [ih]

/-- `g f` prints for machine `f`: that machine's cursor and region change, nothing else -/
@[simp] abbrev PrintsOnly (D : Desc) (s : St) (g : Fsm → St) : Prop :=
  (∀ f, SameCtlNP s (g f) ∧ SameMem s (g f) ∧ SameLog s (g f)) ∧
  (g .cmd).uposition = s.uposition ∧ KeepsUR D s (g .cmd) ∧ (g .uns).position = s.position ∧ KeepsCR D s (g .uns)

@[simp] theorem printN_frame (D : Desc) (s : St) (str : List Byte) : PrintsOnly D s (fun f => (printN D s f str).1) := by
  refine ⟨fun f => ?_, ?_, ?_, ?_, ?_⟩ <;> simp only [printN] <;> split <;> simp

theorem printN_ok (D : Desc) (s : St) (f : Fsm) (x : List Byte) :
    ((printN D s f x).2 = true ↔ x.length < D.capOf f - s.pos f) ∧
    ((printN D s f x).2 = true → (printN D s f x).1.pos f = s.pos f + x.length) := by
  unfold printN
  simp only
  split
  · exact ⟨⟨Bool.noConfusion, fun h => by omega⟩, Bool.noConfusion⟩
  · exact ⟨⟨fun _ => by omega, fun _ => rfl⟩, fun _ => by cases f <;> simp [St.pos]⟩

@[simp] theorem printFmt_frame (D : Desc) (s : St) (txt : List Byte) : PrintsOnly D s (fun f => (printFmt D s f txt).1) := by
  refine ⟨fun f => ?_, ?_, ?_, ?_, ?_⟩ <;> simp only [printFmt] <;> (repeat' split) <;> simp

@[simp] theorem printAll_frame (D : Desc) (xs : List (List Byte)) : ∀ s : St,
    PrintsOnly D s (fun f => (printAll D s f xs).1) := by
  induction xs with
  | nil => intro s; simp [printAll]
  | cons x r ih =>
    intro s
    refine ⟨fun f => ?_, ?_, ?_, ?_, ?_⟩ <;> simp only [printAll] <;> split <;> simp [ih]

@[simp] theorem printHexBytes_frame (D : Desc) (wo : Bool) (bs : List Byte) : ∀ s : St,
    PrintsOnly D s (fun f => (printHexBytes D f wo s bs).1) := by
  induction bs with
  | nil => intro s; simp [printHexBytes]
  | cons b r ih =>
    intro s
    simp only [PrintsOnly, printHexBytes]
    generalize hexFixed 2 (if wo = true then 0 else b) = txt
    refine ⟨fun f => ?_, ?_, ?_, ?_, ?_⟩ <;> split <;> simp [ih]

end Cat
