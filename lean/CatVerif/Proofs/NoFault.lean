/-
  Fault flags (C03): `oob` is raised by an access outside its object, `ub` by an operation the C
  standard leaves undefined.  The print layer and the variable stores never raise them under
  their guards.
-/
import CatVerif.Proofs.Frame
namespace Cat
open St

@[simp] abbrev SameFault (s s' : St) : Prop := s'.oob = s.oob ∧ s'.ub = s.ub

theorem setB_fault (D : Desc) (s : St) (f : Fsm) (i : Nat) (v : Byte) :
    (i < D.capOf f → SameFault s (setB D s f i v)) ∧
    (¬ i < D.capOf f → (setB D s f i v).oob = true ∧ (setB D s f i v).buf = s.buf ∧ (setB D s f i v).ubuf = s.ubuf) := by
  unfold setB
  constructor <;> intro h <;> simp [h] <;> cases f <;> simp <;> split <;> simp

theorem pos_of_samePos {s s' : St} (h : SamePos s s') (f : Fsm) : s'.pos f = s.pos f := by
  cases f
  · exact h.1
  · exact h.2

theorem setB_pos (D : Desc) (s : St) (f : Fsm) (i : Nat) (v : Byte) : (setB D s f i v).pos f = s.pos f :=
  pos_of_samePos (by simp) f

theorem writeB_nofault (D : Desc) (f : Fsm) (bs : List Byte) : ∀ (s : St) (i : Nat),
    i + bs.length ≤ D.capOf f → SameFault s (writeB D s f i bs) := by
  induction bs with
  | nil => intro s i _; simp [writeB]
  | cons b r ih =>
    intro s i h
    simp only [List.length_cons] at h
    simp only [writeB]
    have h1 := (setB_fault D s f i b).1 (by omega)
    have h2 := ih (setB D s f i b) (i + 1) (by omega)
    simp_all

theorem strncpyC_nofault (D : Desc) (s : St) (str : List Byte) : SameFault s (strncpyC D s str) := by
  unfold strncpyC
  exact writeB_nofault D .cmd _ s 0 (by
    simp only [List.length_append, List.length_take, List.length_replicate, Desc.capOf]; omega)

theorem printN_nofault (D : Desc) (s : St) (f : Fsm) (x : List Byte) (hp : s.pos f ≤ D.capOf f) :
    SameFault s (printN D s f x).1 ∧ (printN D s f x).1.pos f ≤ D.capOf f := by
  unfold printN
  simp only [hp, decide_true, St.chkUb, if_true]
  split
  · exact ⟨⟨rfl, rfl⟩, hp⟩
  · rename_i hlt
    have w := writeB_nofault D f x s (s.pos f) (by omega)
    have sb := (setB_fault D ((writeB D s f (s.pos f) x).setPos f (s.pos f + x.length)) f (s.pos f + x.length) 0).1 (by omega)
    refine ⟨?_, ?_⟩
    · simp_all
    · rw [setB_pos]; simp; omega

theorem printFmt_nofault (D : Desc) (s : St) (f : Fsm) (x : List Byte) (hp : s.pos f ≤ D.capOf f) :
    SameFault s (printFmt D s f x).1 ∧ (printFmt D s f x).1.pos f ≤ D.capOf f := by
  unfold printFmt
  simp only [hp, decide_true, St.chkUb, if_true]
  split
  · exact ⟨⟨rfl, rfl⟩, hp⟩
  · rename_i hl
    have hl' : D.capOf f - s.pos f ≠ 0 := by simpa using hl
    have w := writeB_nofault D f (x.take (D.capOf f - s.pos f - 1) ++ [0]) s (s.pos f) (by
      simp only [List.length_append, List.length_take, List.length_singleton]; omega)
    split
    · exact ⟨w, Nat.le_trans (Nat.le_of_eq (pos_of_samePos (by simp) f)) hp⟩
    · refine ⟨by simpa using w, ?_⟩
      simp; omega

theorem printAll_nofault (D : Desc) (f : Fsm) (xs : List (List Byte)) : ∀ s : St, s.pos f ≤ D.capOf f →
    SameFault s (printAll D s f xs).1 ∧ (printAll D s f xs).1.pos f ≤ D.capOf f := by
  induction xs with
  | nil => intro s hp; exact ⟨⟨rfl, rfl⟩, hp⟩
  | cons x r ih =>
    intro s hp
    have h1 := printN_nofault D s f x hp
    simp only [printAll]
    split
    · have h2 := ih (printN D s f x).1 h1.2
      exact ⟨⟨h2.1.1.trans h1.1.1, h2.1.2.trans h1.1.2⟩, h2.2⟩
    · exact h1

end Cat
