/-
  Frame lemmas for the functions the two machines share and those of the command machine (`s'` is the
  state the function returns); footprints that recur have names (`ReadsOnly`, `RespC`, `CallC`, `CbOnly`,
  `CbStepC`, `LoopC`, with twins in `U`).  Then the whole step: what `commandService` keeps and logs, what survives
  its callbacks (`CbKept`).
-/
import CatVerif.Proofs.Shapes
import CatVerif.Proofs.Ctl
namespace Cat
open St

/-- a read, refused or delivered, is logged and may replace `currentChar` -/
@[simp] abbrev ReadsOnly (s s' : St) : Prop :=
  CtlC s s' ∧ LogsOnly [.rd] s s' ∧ s'.position = s.position ∧
  s'.index = s.index ∧ s'.partialCntr = s.partialCntr ∧ s'.length = s.length ∧ s'.writeSize = s.writeSize ∧
  s'.cmd = s.cmd ∧ s'.cmdType = s.cmdType ∧ s'.state = s.state ∧ s'.crFlag = s.crFlag ∧
  s'.writeSrc = s.writeSrc ∧ s'.writeState = s.writeState ∧ s'.writeStateAfter = s.writeStateAfter ∧
  s'.implicitWriteFlag = s.implicitWriteFlag

/-- a helper of the command machine that may start a response: it logs at most a result code and the start of a flush -/
@[simp] abbrev RespC (D : Desc) (s s' : St) : Prop :=
  OwnC D s s' ∧ LogsOnly [.ack, .flC] s s' ∧ s'.currentChar = s.currentChar

@[simp] abbrev RespU (D : Desc) (s s' : St) : Prop := OwnU D s s' ∧ LogsOnly [.flU] s s'

@[simp] theorem readCmdChar_frame (s : St) (i : SvcIn) : ReadsOnly s (readCmdChar s i).1 := by
  unfold readCmdChar; split <;> simp +contextual [cls]

@[simp] theorem startFlush_frame (s : St) (a : After) :
    (let s' := startFlush s .cmd a; CtlC s s' ∧ LogsOnly [.flC] s s' ∧ SameLine s s') ∧
    (let s' := startFlush s .uns a; CtlU s s' ∧ LogsOnly [.flU] s s' ∧ SameEvt s s') := by
  simp +contextual [startFlush, cls]

@[simp] theorem startFlushRaw_frame (s : St) (a : After) :
    let s' := startFlushRaw s a
    CtlC s s' ∧ LogsOnly [.flC] s s' ∧ SameLine s s' := by
  simp +contextual [startFlushRaw, cls]

@[simp] theorem ackError_frame (D : Desc) (s : St) :
    let s' := ackError D s
    OwnC D s s' ∧ LogsOnly [.ack, .flC] s s' ∧ SameLine s s' ∧ s'.ub = s.ub := by
  simp +contextual [ackError, cls]

@[simp] theorem ackOk_frame (D : Desc) (s : St) :
    let s' := ackOk D s
    OwnC D s s' ∧ LogsOnly [.ack, .flC] s s' ∧ SameLine s s' ∧ s'.ub = s.ub := by
  simp +contextual [ackOk, cls]

theorem ackError_spec (D : Desc) (s : St) :
    let s' := ackError D s
    s'.state = .flushWait ∧ s'.writeStateAfter = .reset ∧ s'.log = s.log ++ [.ack false, .flushStart .cmd false] := by
  simp [ackError, startFlush]

theorem ackOk_spec (D : Desc) (s : St) :
    let s' := ackOk D s
    s'.state = .flushWait ∧ s'.writeStateAfter = .reset ∧ s'.log = s.log ++ [.ack true, .flushStart .cmd false] := by
  simp [ackOk, startFlush]

@[simp] theorem unsolicitedResetState_frame (s : St) :
    let s' := unsolicitedResetState s
    CtlU s s' ∧ SameLog s s' ∧ s'.uindex = s.uindex ∧ s'.uposition = s.uposition ∧
    s'.ustate = .idle ∧ s'.ucmd = none ∧ s'.ucmdType = .none := by
  simp [unsolicitedResetState]

@[simp] theorem endError_eq (D : Desc) (s : St) :
    endError D s .cmd = ackError D s ∧ endError D s .uns = unsolicitedResetState s := ⟨rfl, rfl⟩
@[simp] theorem endOk_eq (D : Desc) (s : St) :
    endOk D s .cmd = ackOk D s ∧ endOk D s .uns = unsolicitedResetState s := ⟨rfl, rfl⟩

@[simp] theorem resetState_frame (s : St) :
    let s' := resetState s
    CtlC s s' ∧ SameLog s s' ∧ s'.currentChar = s.currentChar := by
  unfold resetState; split <;> simp

@[simp] theorem enableHoldState_frame (s : St) :
    let s' := enableHoldState s
    KeepsU s s' ∧ SameBuf s s' ∧ SameR s s' ∧ SameMem s s' ∧ SameLog s s' ∧ SameLine s s' ∧ s'.position = s.position ∧
    s'.oob = s.oob ∧ s'.ub = s.ub := by
  simp [enableHoldState]

@[simp] theorem prepareParseCommand_frame (D : Desc) (s : St) :
    let s' := prepareParseCommand D s
    OwnC D s s' ∧ SameLog s s' ∧ s'.currentChar = s.currentChar ∧ s'.ub = s.ub := by
  simp [prepareParseCommand]

@[simp] theorem prepareSearchCommand_frame (s : St) :
    let s' := prepareSearchCommand s
    CtlC s s' ∧ SameLog s s' ∧ s'.currentChar = s.currentChar ∧ s'.length = s.length ∧ s'.cmdType = s.cmdType := by
  simp [prepareSearchCommand]

@[simp] theorem notFoundOrError_frame (s : St) :
    let s' := notFoundOrError s
    CtlC s s' ∧ SameLog s s' ∧ SameLine s s' := by
  simp [notFoundOrError]

@[simp] theorem setStateRL_frame (s : St) :
    (let s' := setStateRL s .cmd; CtlC s s' ∧ SameLog s s' ∧ SameLine s s' ∧ s'.position = s.position) ∧
    (let s' := setStateRL s .uns; CtlU s s' ∧ SameLog s s' ∧ SameEvt s s' ∧ s'.uposition = s.uposition) := by
  simp [setStateRL]

@[simp] theorem setStateTL_frame (s : St) :
    (let s' := setStateTL s .cmd; CtlC s s' ∧ SameLog s s' ∧ SameLine s s' ∧ s'.position = s.position) ∧
    (let s' := setStateTL s .uns; CtlU s s' ∧ SameLog s s' ∧ SameEvt s s' ∧ s'.uposition = s.uposition) := by
  simp [setStateTL]

@[simp] theorem printResponseTest_frame (D : Desc) (s : St) :
    (let s' := (printResponseTest D s .cmd).1; OwnC D s s' ∧ LogsOnly [.flC] s s' ∧ SameLine s s') ∧
    (let s' := (printResponseTest D s .uns).1; RespU D s s' ∧ SameEvt s s') := by
  simp only [printResponseTest]
  constructor <;> (repeat' split) <;> simp +contextual [St.cmdOf]

@[simp] theorem nextFormatVar_frame (D : Desc) (s : St) :
    (let s' := (nextFormatVar D s .cmd).1; RespC D s s' ∧ s'.cmd = s.cmd) ∧
    (let s' := (nextFormatVar D s .uns).1; OwnU D s s' ∧ SameLog s s') := by
  simp only [nextFormatVar]
  constructor <;> (repeat' split) <;> simp +contextual [St.setIdx, St.idx, St.pos]

theorem nextFormatVar_done (D : Desc) (s : St) (f : Fsm) (h : (nextFormatVar D s f).2 = false) :
    (nextFormatVar D s f).1 = s.setIdx f (s.idx f + 1) := by
  revert h
  simp only [nextFormatVar]
  split
  · split <;> simp
  · simp

@[simp] theorem cmdListNextCmd_frame (D : Desc) (s : St) :
    let s' := (cmdListNextCmd D s).1
    CtlC s s' ∧ SameLog s s' ∧ s'.currentChar = s.currentChar := by
  simp only [cmdListNextCmd]; split <;> simp

@[simp] theorem printCurrentCmdFullName_frame (D : Desc) (s : St) (x : List Byte) :
    let s' := (printCurrentCmdFullName D s x).1
    OwnC D s s' ∧ SameLog s s' ∧ s'.currentChar = s.currentChar ∧ s'.state = s.state ∧
    s'.writeStateAfter = s.writeStateAfter ∧ s'.index = s.index ∧ s'.cmd = s.cmd ∧ s'.cmdType = s.cmdType := by
  simp only [printCurrentCmdFullName]
  (repeat' split) <;> simp

@[simp] theorem startPrintCmdList_frame (D : Desc) (s : St) : RespC D s (startPrintCmdList D s) := by
  simp only [startPrintCmdList]; split <;> simp +contextual

@[simp] theorem startFormatTest_frame (D : Desc) (s : St) :
    RespC D s (startFormatTest D s .cmd) ∧ RespU D s (startFormatTest D s .uns) := by
  simp only [startFormatTest]
  constructor <;> (repeat' (with_reducible refine rel_ite (fun _ => ?_) (fun _ => ?_))) <;> simp +contextual [St.cmdOf]

@[simp] theorem startFormatRead_frame (D : Desc) (s : St) :
    RespC D s (startFormatRead D s .cmd) ∧ (let s' := startFormatRead D s .uns; OwnU D s s' ∧ SameLog s s') := by
  simp only [startFormatRead]
  constructor <;> (repeat' split) <;> simp +contextual [St.cmdOf]

@[simp] theorem parseVarValue_frame (D : Desc) (s : St) (v : VarD) : ParseOnly s (parseVarValue D s v).1 := by
  simp only [parseVarValue]
  (repeat' split) <;> simp +contextual

/-- a variable callback: what it can change, through its nested API calls and pokes, is the ring, the hold-exit status
and (in place) variable storage -/
@[simp] abbrev CbOnly (s s' : St) : Prop :=
  KeepsU s s' ∧ KeepsC s s' ∧ SameBuf s s' ∧ s'.holdFlag = s.holdFlag ∧ LenE s s' ∧ s'.ub = s.ub

@[simp] theorem varWriteCb_frame (D : Desc) (s : St) (v : VarD) (i : SvcIn) :
    let s' := (varWriteCb D s v i).1
    CbOnly s s' ∧ ∀ c, c ≠ .cbC → ApiFree c i.vc.acts → Quiet c s s' := by
  unfold varWriteCb; split <;> simp +contextual [cls, applyNested_quiet]

@[simp] theorem varReadCb_frame (D : Desc) (s : St) (v : VarD) (i : SvcIn) :
    (let s' := (varReadCb D s .cmd v i).1; CbOnly s s' ∧ ∀ c, c ≠ .cbC → ApiFree c i.vc.acts → Quiet c s s') ∧
    (let s' := (varReadCb D s .uns v i).1; CbOnly s s' ∧ ∀ c, c ≠ .cbU → ApiFree c i.vu.acts → Quiet c s s') := by
  simp only [varReadCb]
  constructor <;> split <;> simp +contextual [cls, applyNested_quiet]

/-- what the helper calls of the return-code switches leave alone -/
@[simp] abbrev CallC (D : Desc) (s s' : St) : Prop :=
  KeepsU s s' ∧ KeepsUR D s s' ∧ SameR s s' ∧ SameMem s s' ∧ LogsOnly [.ack, .flC] s s' ∧ s'.currentChar = s.currentChar

@[simp] abbrev CallU (D : Desc) (s s' : St) : Prop :=
  KeepsCR D s s' ∧ SameR s s' ∧ SameMem s s' ∧ LogsOnly [.flU] s s'

@[simp] theorem doCall_cmd_frame (D : Desc) (s : St) (c : Call) : CallC D s (doCall D .cmd s c) := by
  cases c <;> simp +contextual [doCall]

theorem doCall_uns_frame (D : Desc) (s : St) (c : Call) (h : UnsCallQ c) :
    let s' := doCall D .uns s c
    CallU D s s' ∧ (c ≠ .enableHold → KeepsC s s' ∧ s'.holdFlag = s.holdFlag) := by
  cases c <;> simp [UnsCallQ] at h <;> simp +contextual [doCall]

theorem doCalls_rel {R : St → St → Prop} (hr : ∀ s, R s s) (ht : ∀ a b c, R a b → R b c → R a c) (D : Desc) (f : Fsm)
    (cs : List Call) (h : ∀ s, ∀ c ∈ cs, R s (doCall D f s c)) : ∀ s, R s (doCalls D f s cs) := by
  induction cs with
  | nil => intro s; exact hr s
  | cons c r ih =>
    intro s
    exact ht _ _ _ (h s c (by simp)) (ih (fun s c hc => h s c (by simp [hc])) _)

@[simp] theorem doCalls_cmd_frame (D : Desc) (cs : List Call) (s : St) : CallC D s (doCalls D .cmd s cs) :=
  doCalls_rel (R := CallC D) (by simp) (by intro a b c h1 h2; simp +contextual [h1, h2]) D .cmd cs (fun s c _ => doCall_cmd_frame D s c) s

theorem doCalls_uns_frame (D : Desc) (cs : List Call) (s : St) (h : ∀ c ∈ cs, UnsCallQ c) : CallU D s (doCalls D .uns s cs) :=
  doCalls_rel (R := CallU D) (by simp) (by intro a b c h1 h2; simp +contextual [h1, h2]) D .uns cs
    (fun s c hc => (doCall_uns_frame D s c (h c hc)).1) s

theorem doCalls_uns_keepsC (D : Desc) (cs : List Call) (s : St) (h : ∀ c ∈ cs, UnsCallQ c ∧ c ≠ .enableHold) :
    KeepsC s (doCalls D .uns s cs) ∧ (doCalls D .uns s cs).holdFlag = s.holdFlag :=
  doCalls_rel (R := fun s s' => KeepsC s s' ∧ s'.holdFlag = s.holdFlag)
    (by simp) (by intro a b c h1 h2; simp +contextual [h1, h2]) D .uns cs
    (fun s c hc => (doCall_uns_frame D s c (h c hc).1).2 (h c hc).2) s

/-- a step that runs a callback with the actions `acts`: outside the classes `K` it logs only what the callback's API calls log -/
@[simp] abbrev CbStepC (D : Desc) (K : List Cls) (acts : List Nested) (s s' : St) : Prop :=
  KeepsU s s' ∧ KeepsUR D s s' ∧ LenE s s' ∧ s'.currentChar = s.currentChar ∧ ∀ c, c ∉ K → ApiFree c acts → Quiet c s s'

@[simp] abbrev CbStepU (D : Desc) (acts : List Nested) (s s' : St) : Prop :=
  KeepsCR D s s' ∧ LenE s s' ∧ ∀ c, c ∉ [.flU, .cbU] → ApiFree c acts → Quiet c s s'

@[simp] abbrev LoopC (D : Desc) (ans : HAnswer) (s s' : St) : Prop := CbStepC D [.ack, .flC, .cbC] ans.acts s s'

/-- HOLD aside (DESIGN.md 2.3) a handler loop of the unsolicited machine leaves the command machine's control fields alone -/
@[simp] abbrev LoopU (D : Desc) (ans : HAnswer) (s s' : St) : Prop :=
  CbStepU D ans.acts s s' ∧ (ans.ret ≠ 4 → KeepsC s s' ∧ s'.holdFlag = s.holdFlag)

theorem loopStep_cmd_frame (D : Desc) (k : HKind) (s : St) (ans : HAnswer) : LoopC D ans s (loopStep D .cmd k s ans) := by
  have he := handlerEv_cls D .cmd k (by simp)
  simp +contextual [loopStep, he, cbCls, applyNested_quiet]

theorem loopStep_uns_frame (D : Desc) (k : HKind) (hk : k = .read ∨ k = .test) (s : St) (ans : HAnswer) :
    LoopU D ans s (loopStep D .uns k s ans) := by
  have t := unsTable_calls k hk ans.ret
  have he := handlerEv_cls D .uns k (fun _ => hk) (s.chkUb (s.cmdOf .uns).isSome) ans.ret
  simp only [loopStep]
  generalize hu : applyNested D .uns k.edits _ ans.acts = u
  have a := doCalls_uns_frame D (loopTable k ans.ret .uns) u t
  have b := fun (h4 : ans.ret ≠ 4) =>
    doCalls_uns_keepsC D (loopTable k ans.ret .uns) u (fun c hc => ⟨t c hc, fun e => h4 ((enableHold_mem_loopTable k ans.ret .uns).1 (e ▸ hc))⟩)
  subst hu
  simp +contextual [a, b, he, cbCls, applyNested_quiet]

@[simp] theorem cmdLoops_frame (D : Desc) (s : St) (i : SvcIn) :
    LoopC D i.hc s (processWriteLoop D s i).1 ∧ LoopC D i.hc s (processRunLoop D s i).1 ∧
    LoopC D i.hc s (processReadLoop D s .cmd i).1 ∧ LoopC D i.hc s (processTestLoop D s .cmd i).1 :=
  ⟨loopStep_cmd_frame D .write s i.hc, loopStep_cmd_frame D .run s i.hc,
   loopStep_cmd_frame D .read s i.hc, loopStep_cmd_frame D .test s i.hc⟩

@[simp] theorem unsLoops_frame (D : Desc) (s : St) (i : SvcIn) :
    LoopU D i.hu s (processReadLoop D s .uns i).1 ∧ LoopU D i.hu s (processTestLoop D s .uns i).1 :=
  ⟨loopStep_uns_frame D .read (.inl rfl) s i.hu, loopStep_uns_frame D .test (.inr rfl) s i.hu⟩

theorem handlerEv_chkUb (D : Desc) (f : Fsm) (k : HKind) (s : St) (c : Bool) (ret : Int) :
    handlerEv D f k (s.chkUb c) ret = handlerEv D f k s ret := by
  unfold St.chkUb; split <;> rfl

/-- **A handler-loop step of machine `f` invokes exactly one handler**: of the step's own kind, for the selected
command, on the text of `f`'s own region.  Neither the nested API calls nor the return-code switch log a callback. -/
theorem loop_invokes (D : Desc) (f : Fsm) (k : HKind) (hk : f = .uns → k = .read ∨ k = .test) (s : St) (ans : HAnswer) :
    tr (cbCls f) (loopStep D f k s ans).log = tr (cbCls f) s.log ++ [handlerEv D f k s ans.ret] := by
  have hn : ApiFree (cbCls f) ans.acts := .of_ne (by cases f <;> decide) (by cases f <;> decide)
  have hd : ∀ t, tr (cbCls f) (doCalls D f t (loopTable k ans.ret f)).log = tr (cbCls f) t.log := by
    intro t; cases f
    · simp [cbCls]
    · simp [cbCls, doCalls_uns_frame D _ t (unsTable_calls k (hk rfl) ans.ret)]
  rw [loopStep, handlerEv_chkUb, hd, applyNested_quiet _ D f _ _ hn]
  simp [handlerEv_cls D f k hk s ans.ret]

theorem rdChar_frame (s : St) (b : Byte) : ReadsOnly s (rdChar s b) := by
  simp +contextual [rdChar, cls]

theorem readerBody_frame (D : Desc) (st : CState) (t : St) : RespC D t (readerBody D st t) := by
  cases st <;> simp only [readerBody] <;> (repeat' (with_reducible refine rel_ite (fun _ => ?_) (fun _ => ?_))) <;> simp +contextual

theorem readerBody_ctl (D : Desc) (st : CState) (h : st = .idle ∨ st = .waitReadAck) (t : St) :
    let s' := readerBody D st t
    CtlC t s' ∧ SameLog t s' := by
  show (fun s' => CtlC t s' ∧ SameLog t s') (readerBody D st t)
  rcases h with rfl | rfl <;> simp only [readerBody] <;>
    (repeat' (with_reducible refine rel_ite (R := fun s' => CtlC t s' ∧ SameLog t s') (fun _ => ?_) (fun _ => ?_))) <;> simp

theorem reader_frame (D : Desc) (st : CState) (s : St) (i : SvcIn) :
    let s' := (reader (readerBody D st) s i).1
    OwnC D s s' ∧ LogsOnly [.rd, .ack, .flC] s s' := by
  unfold reader
  cases i.rd with
  | none => simp +contextual [cls]
  | some b => simp +contextual [readerBody_frame D st (rdChar s b), rdChar_frame s b]

theorem reader_ctl (D : Desc) (st : CState) (h : st = .idle ∨ st = .waitReadAck) (s : St) (i : SvcIn) :
    let s' := (reader (readerBody D st) s i).1
    CtlC s s' ∧ LogsOnly [.rd] s s' := by
  unfold reader
  cases i.rd with
  | none => simp +contextual [cls]
  | some b => simp +contextual [readerBody_ctl D st h (rdChar s b), rdChar_frame s b]

@[simp] theorem errorState_frame (D : Desc) (s : St) (i : SvcIn) :
    let s' := (errorState D s i).1
    OwnC D s s' ∧ LogsOnly [.rd, .ack, .flC] s s' := by
  rw [errorState_eq]; exact reader_frame D _ s i

@[simp] theorem processIdleState_frame (s : St) (i : SvcIn) :
    let s' := (processIdleState s i).1
    CtlC s s' ∧ LogsOnly [.rd] s s' := by
  -- `readerBody D .idle` (and `.waitReadAck` below) does not look at `D`: any descriptor will do
  rw [processIdleState_eq default]; exact reader_ctl default _ (.inl rfl) s i

@[simp] theorem parsePrefix_frame (D : Desc) (s : St) (i : SvcIn) :
    let s' := (parsePrefix D s i).1
    OwnC D s s' ∧ LogsOnly [.rd, .ack, .flC] s s' := by
  rw [parsePrefix_eq]; exact reader_frame D _ s i

@[simp] theorem parseCommand_frame (D : Desc) (s : St) (i : SvcIn) :
    let s' := (parseCommand D s i).1
    OwnC D s s' ∧ LogsOnly [.rd, .ack, .flC] s s' := by
  rw [parseCommand_eq]; exact reader_frame D _ s i

@[simp] theorem waitReadAcknowledge_frame (s : St) (i : SvcIn) :
    let s' := (waitReadAcknowledge s i).1
    CtlC s s' ∧ LogsOnly [.rd] s s' := by
  rw [waitReadAcknowledge_eq default]; exact reader_ctl default _ (.inr rfl) s i

@[simp] theorem waitTestAcknowledge_frame (D : Desc) (s : St) (i : SvcIn) :
    let s' := (waitTestAcknowledge D s i).1
    OwnC D s s' ∧ LogsOnly [.rd, .ack, .flC] s s' := by
  rw [waitTestAcknowledge_eq]; exact reader_frame D _ s i

@[simp] theorem parseCommandArgs_frame (D : Desc) (s : St) (i : SvcIn) :
    let s' := (parseCommandArgs D s i).1
    OwnC D s s' ∧ LogsOnly [.rd, .ack, .flC] s s' := by
  rw [parseCommandArgs_eq]; exact reader_frame D _ s i

@[simp] theorem updateLane_frame (D : Desc) (s : St) :
    let s' := updateLane D s
    OwnC D s s' ∧ SameLog s s' ∧ s'.currentChar = s.currentChar ∧ s'.state = s.state ∧ s'.ub = s.ub ∧
    s'.index = s.index ∧ s'.length = s.length ∧ s'.cmdType = s.cmdType := by
  have walk := @rel_ite St (fun r => OwnC D s r ∧ SameLog s r ∧ r.currentChar = s.currentChar ∧ r.state = s.state ∧ r.ub = s.ub ∧
    r.index = s.index ∧ r.length = s.length ∧ r.cmdType = s.cmdType)
  simp only [updateLane]
  repeat' (with_reducible refine walk (fun _ => ?_) (fun _ => ?_))
  all_goals simp

@[simp] theorem updateAdvance_frame (D : Desc) (s : St) :
    let s' := updateAdvance D s
    CtlC s s' ∧ SameLog s s' ∧ s'.currentChar = s.currentChar ∧ s'.length = s.length := by
  simp only [updateAdvance]; (repeat' split) <;> simp

@[simp] theorem updateCommand_frame (D : Desc) (s : St) :
    let s' := (updateCommand D s).1
    OwnC D s s' ∧ SameLog s s' ∧ s'.currentChar = s.currentChar ∧ s'.length = s.length := by
  simp [updateCommand]

@[simp] theorem searchCommand_frame (D : Desc) (s : St) :
    let s' := (searchCommand D s).1
    KeepsU s s' ∧ SameBuf s s' ∧ SameShared s s' ∧ SameLog s s' ∧ s'.currentChar = s.currentChar ∧
    s'.cmdType = s.cmdType ∧ s'.length = s.length := by
  have walk := @rel_ite St (fun r => KeepsU s r ∧ SameBuf s r ∧ SameShared s r ∧ SameLog s r ∧ r.currentChar = s.currentChar ∧
    r.cmdType = s.cmdType ∧ r.length = s.length)
  simp only [searchCommand, apply_ite Prod.fst, chkUb_ctl]
  -- whether the entry matches decides a state-valued `if` that the later conditions read: settled first, a plain tree is left
  by_cases h1 : ((getCmdState D (s.chkUb (decide (s.index < D.commandsNum))) s.index).2 == 1) = true <;> simp only [h1]
  all_goals repeat' (with_reducible refine walk (fun _ => ?_) (fun _ => ?_))
  all_goals simp

@[simp] theorem commandFound_frame (D : Desc) (s : St) : RespC D s (commandFound D s).1 := by
  simp only [commandFound]; (repeat' split) <;> simp +contextual

@[simp] theorem commandNotFound_frame (D : Desc) (s : St) :
    let s' := (commandNotFound D s).1
    OwnC D s s' ∧ LogsOnly [.ack, .flC] s s' ∧ SameLine s s' := by
  simp +contextual [commandNotFound]

@[simp] theorem parseWriteArgs_frame (D : Desc) (s : St) (i : SvcIn) :
    let s' := (parseWriteArgs D s i).1
    CbStepC D [.ack, .flC, .mem, .cbC] i.vc.acts s s' ∧ s'.holdFlag = s.holdFlag := by
  have walk := @rel_ite (St × Int) (fun r => CbStepC D [.ack, .flC, .mem, .cbC] i.vc.acts s r.1 ∧ r.1.holdFlag = s.holdFlag)
  simp only [parseWriteArgs]
  repeat' (with_reducible refine walk (fun _ => ?_) (fun _ => ?_))
  all_goals simp +contextual

@[simp] theorem formatReadArgs_frame (D : Desc) (s : St) (i : SvcIn) :
    (let s' := (formatReadArgs D s .cmd i).1; CbStepC D [.ack, .flC, .cbC] i.vc.acts s s' ∧ s'.holdFlag = s.holdFlag) ∧
    (let s' := (formatReadArgs D s .uns i).1; CbStepU D i.vu.acts s s' ∧ KeepsC s s' ∧ s'.holdFlag = s.holdFlag) := by
  have walkC := @rel_ite (St × Int) (fun r => CbStepC D [.ack, .flC, .cbC] i.vc.acts s r.1 ∧ r.1.holdFlag = s.holdFlag)
  have walkU := @rel_ite (St × Int) (fun r => CbStepU D i.vu.acts s r.1 ∧ KeepsC s r.1 ∧ r.1.holdFlag = s.holdFlag)
  simp only [formatReadArgs]
  constructor
  · repeat' (with_reducible refine walkC (fun _ => ?_) (fun _ => ?_))
    all_goals simp +contextual [St.cmdOf, St.idx]
  · repeat' (with_reducible refine walkU (fun _ => ?_) (fun _ => ?_))
    all_goals simp +contextual [St.cmdOf, St.idx]

@[simp] theorem formatTestArgs_frame (D : Desc) (s : St) :
    RespC D s (formatTestArgs D s .cmd).1 ∧ RespU D s (formatTestArgs D s .uns).1 := by
  simp only [formatTestArgs, apply_ite Prod.fst]
  constructor <;> (repeat' (with_reducible refine rel_ite (fun _ => ?_) (fun _ => ?_))) <;> simp +contextual [St.cmdOf, St.idx]

@[simp] theorem processHoldState_frame (D : Desc) (s : St) :
    let s' := (processHoldState D s).1
    KeepsU s s' ∧ KeepsUR D s s' ∧ SameR s s' ∧ SameMem s s' ∧ s'.holdExitStatus = s.holdExitStatus ∧
    LogsOnly [.ack, .flC] s s' ∧ s'.currentChar = s.currentChar := by
  simp only [processHoldState]; (repeat' split) <;> simp +contextual

@[simp] theorem processIoWriteWait_frame (s : St) :
    let s' := (processIoWriteWait s).1
    CtlC s s' ∧ SameLog s s' ∧ SameLine s s' ∧ s'.position = s.position := by
  simp only [processIoWriteWait]; split <;> simp

@[simp] theorem processIoWrite_frame (D : Desc) (s : St) (i : SvcIn) :
    let s' := (processIoWrite D s i).1
    KeepsU s s' ∧ SameBuf s s' ∧ SameShared s s' ∧ LogsOnly [.wrC, .flC] s s' ∧ SameLine s s' ∧ s'.ub = s.ub ∧
    s'.writeStateAfter = s.writeStateAfter ∧ (s'.state = s.state ∨ s'.state = s.writeStateAfter.toC) := by
  have walk := @rel_ite St (fun r => KeepsU s r ∧ SameBuf s r ∧ SameShared s r ∧ LogsOnly [.wrC, .flC] s r ∧
    SameLine s r ∧ r.ub = s.ub ∧ r.writeStateAfter = s.writeStateAfter ∧ (r.state = s.state ∨ r.state = s.writeStateAfter.toC))
  simp only [processIoWrite, apply_ite Prod.fst]
  repeat' (with_reducible refine walk (fun _ => ?_) (fun _ => ?_))
  all_goals simp +contextual [cls]

@[simp] theorem printCmdForm_frame (D : Desc) (s : St) (avail : Bool) (x : List Byte) (next : CmdType) :
    RespC D s (printCmdForm D s avail x next) := by
  simp only [printCmdForm]
  (repeat' (with_reducible refine rel_ite (fun _ => ?_) (fun _ => ?_))) <;> simp +contextual

@[simp] theorem printCmdList_frame (D : Desc) (s : St) : RespC D s (printCmdList D s) := by
  simp only [printCmdList]
  split <;> (repeat' (with_reducible refine rel_ite (fun _ => ?_) (fun _ => ?_))) <;> simp +contextual

/-- **In a handler-loop state a step of either machine invokes exactly one handler**, that of the state's kind. -/
theorem machineStep_invokes {D : Desc} {s : St} {k : HKind} {f : Fsm} (i : SvcIn) (h : s.calling k f) :
    tr (cbCls f) (machineStep D s f i).1.log = tr (cbCls f) s.log ++ [handlerEv D f k s (i.h f).ret] := by
  cases f
  · rw [machineStep_cmd, commandService_loop i h]; exact loop_invokes D .cmd k (by simp) s i.hc
  · cases k <;> simp only [St.calling] at h
    · simp only [machineStep, unsolicitedEventsService, h, processReadLoop_eq]
      exact loop_invokes D .uns .read (fun _ => .inl rfl) s i.hu
    · simp only [machineStep, unsolicitedEventsService, h, processTestLoop_eq]
      exact loop_invokes D .uns .test (fun _ => .inr rfl) s i.hu

theorem commandService_cc (D : Desc) (s : St) (i : SvcIn) (h : ¬ Reading s.state) :
    (commandService D s i).1.currentChar = s.currentChar := by
  unfold commandService
  split <;> simp_all [Reading]

theorem commandService_keepsU (D : Desc) (s : St) (i : SvcIn) : KeepsU s (commandService D s i).1 := by
  unfold commandService
  split <;> simp

theorem commandService_keepsUR (D : Desc) (s : St) (i : SvcIn) : KeepsUR D s (commandService D s i).1 := by
  unfold commandService
  split <;> simp

theorem commandService_lenE (D : Desc) (s : St) (i : SvcIn) : LenE s (commandService D s i).1 := by
  unfold commandService
  split <;> simp

/-- classes of events the command machine may log (lock/unlock and nested results only through
API calls made by its callbacks) -/
def CmdK : List Cls := [.rd, .wrC, .cbC, .ack, .flC, .mem]

/-- the classes the command machine can log in one step from state `st`: input is read in the reading states
only, output offered in FLUSH_IO_WRITE only -/
def cmdLogs : CState → List Cls
  | .idle | .waitReadAck => [.rd]
  | .error | .parsePrefix | .parseCommandChar | .waitTestAck | .parseCommandArgs => [.rd, .ack, .flC]
  | .updateCommandState | .searchCommand | .flushWait => []
  | .parseWriteArgs => [.ack, .flC, .mem, .cbC]
  | .formatReadArgs | .writeLoop | .readLoop | .testLoop | .runLoop => [.ack, .flC, .cbC]
  | .flushWrite => [.wrC, .flC]
  | .afterFlushReset => [.ack]
  | _ => [.ack, .flC]

theorem commandService_logs (c : Cls) (D : Desc) (s : St) (i : SvcIn) (h : c ∉ cmdLogs s.state)
    (hv : ApiFree c i.vc.acts) (hh : ApiFree c i.hc.acts) : Quiet c s (commandService D s i).1 := by
  unfold commandService
  split <;> rename_i hs <;> simp only [hs, cmdLogs] at h <;> simp at h <;> simp [h, hv, hh, cls]

theorem cmdLogs_sub (st : CState) : ∀ c ∈ cmdLogs st, c ∈ CmdK := by
  cases st <;> decide

theorem commandService_quiet (c : Cls) (h : c ∉ CmdK) (D : Desc) (s : St) (i : SvcIn)
    (hv : ApiFree c i.vc.acts) (hh : ApiFree c i.hc.acts) : Quiet c s (commandService D s i).1 :=
  commandService_logs c D s i (fun hc => h (cmdLogs_sub _ c hc)) hv hh

theorem commandService_no_write (D : Desc) (s : St) (i : SvcIn) (h : s.state ≠ .flushWrite) :
    Quiet .wrC s (commandService D s i).1 :=
  commandService_logs .wrC D s i (by revert h; cases s.state <;> simp [cmdLogs])
    (.of_ne (by decide) (by decide)) (.of_ne (by decide) (by decide))

/-- ring fields and the two event classes the queue accounting reads -/
def SameQ (s s' : St) : Prop := SameR s s' ∧ Quiet .pop s s' ∧ Quiet .nested s s'

/-- `P` looks only at the ring and the logged pops and nested calls, and survives the nested calls of the callbacks `L`.
Each machine runs at most one callback per step and only a callback's nested API calls touch the event ring, so such a
`P` survives a step of either machine when `L` holds the callbacks of this `cat_service` call (`commandService_kept`). -/
structure CbKept (D : Desc) (L : List (List Nested)) (P : St → Prop) : Prop where
  congr : ∀ {a b}, SameQ a b → P a → P b
  nested : ∀ f e a, ∀ acts ∈ L, P a → P (applyNested D f e a acts)

variable {D : Desc} {i : SvcIn} {L : List (List Nested)} {P : St → Prop}

theorem varWriteCb_kept (h : CbKept D L P) (hL : i.vc.acts ∈ L) (s : St) (v : VarD) (p : P s) : P (varWriteCb D s v i).1 := by
  unfold varWriteCb; split
  · exact h.nested _ _ _ _ hL (h.congr (by simp [SameQ, cls]) p)
  · exact p

theorem varReadCb_kept (h : CbKept D L P) (f : Fsm) (hL : (i.v f).acts ∈ L) (s : St) (v : VarD) (p : P s) :
    P (varReadCb D s f v i).1 := by
  unfold varReadCb; simp only; split
  · exact h.nested _ _ _ _ (by cases f <;> exact hL) (h.congr (by cases f <;> simp [SameQ, cls]) p)
  · exact p

theorem loopStep_kept (h : CbKept D L P) (f : Fsm) (hL : (i.h f).acts ∈ L) (k : HKind) (hk : f = .uns → k = .read ∨ k = .test)
    (s : St) (p : P s) : P (loopStep D f k s (i.h f)) := by
  have he := handlerEv_cls D f k hk (s.chkUb (s.cmdOf f).isSome) (i.h f).ret
  simp only [loopStep]
  generalize hu : applyNested D f k.edits _ (i.h f).acts = u
  have p1 : P u := by
    subst hu
    exact h.nested f k.edits _ _ hL (h.congr (by cases f <;> simp [SameQ, he, cbCls]) p)
  refine h.congr ?_ p1
  cases f
  · simp [SameQ]
  · simp [SameQ, doCalls_uns_frame D _ u (unsTable_calls k (hk rfl) _)]

theorem parseWriteArgs_kept (h : CbKept D L P) (hL : i.vc.acts ∈ L) (s : St) (p : P s) : P (parseWriteArgs D s i).1 := by
  simp only [parseWriteArgs]
  generalize hs0 : (s.chkUb s.cmd.isSome).chkUb _ = s0
  generalize (D.cmdD (s.chkUb s.cmd.isSome).cmd).varAt s0.index = v
  have p1 : P (parseVarValue D s0 v).1 := h.congr (by subst hs0; simp [SameQ]) p
  have p2 := varWriteCb_kept h hL _ v p1
  repeat' (with_reducible refine rel_ite (R := fun r : St × Int => P r.1) (fun _ => ?_) (fun _ => ?_))
  · exact h.congr (by simp [SameQ]) p1
  all_goals exact h.congr (by simp [SameQ]) p2

theorem formatReadArgs_kept (h : CbKept D L P) (f : Fsm) (hL : (i.v f).acts ∈ L) (s : St) (p : P s) :
    P (formatReadArgs D s f i).1 := by
  simp only [formatReadArgs]
  generalize hs0 : (s.chkUb (s.cmdOf f).isSome).chkUb _ = s0
  generalize (D.cmdD ((s.chkUb (s.cmdOf f).isSome).cmdOf f)).varAt (s0.idx f) = v
  have p1 := varReadCb_kept h f hL s0 v (h.congr (by subst hs0; simp [SameQ]) p)
  repeat' (with_reducible refine rel_ite (R := fun r : St × Int => P r.1) (fun _ => ?_) (fun _ => ?_))
  all_goals cases f <;> exact h.congr (by simp [SameQ]) p1

theorem commandService_kept (h : CbKept D [i.hc.acts, i.vc.acts] P) (s : St) (p : P s) : P (commandService D s i).1 := by
  cases hs : s.state <;> simp only [commandService, hs]
  case parseWriteArgs => exact parseWriteArgs_kept h (by simp) s p
  case formatReadArgs => exact formatReadArgs_kept h .cmd (by simp [SvcIn.v]) s p
  case writeLoop => rw [processWriteLoop_eq]; exact loopStep_kept h .cmd (by simp [SvcIn.h]) .write (by simp) s p
  case readLoop => rw [processReadLoop_eq]; exact loopStep_kept h .cmd (by simp [SvcIn.h]) .read (by simp) s p
  case testLoop => rw [processTestLoop_eq]; exact loopStep_kept h .cmd (by simp [SvcIn.h]) .test (by simp) s p
  case runLoop => rw [processRunLoop_eq]; exact loopStep_kept h .cmd (by simp [SvcIn.h]) .run (by simp) s p
  all_goals exact h.congr (by simp [SameQ, cls]) p

end Cat
