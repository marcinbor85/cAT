/-
  The transition graph of the command machine: which states one `cat_service` step can lead to.
-/
import CatVerif.Proofs.Step
-- nothing here uses it: the tie of the dispatchers to the `switch` statements of cat.c (translator item T4) has to be
-- among the imports of every property about the state machines, so that a changed dispatch in cat.c fails their checks
import CatVerif.Proofs.Dispatch
import CatVerif.Proofs.Resolve
namespace Cat
open St

@[simp] theorem ackError_state (D : Desc) (s : St) : (ackError D s).state = .flushWait ∧ (ackError D s).writeStateAfter = .reset :=
  ⟨(ackError_spec D s).1, (ackError_spec D s).2.1⟩
@[simp] theorem ackOk_state (D : Desc) (s : St) : (ackOk D s).state = .flushWait ∧ (ackOk D s).writeStateAfter = .reset :=
  ⟨(ackOk_spec D s).1, (ackOk_spec D s).2.1⟩
@[simp] theorem startFlush_cmd_state (s : St) (a : After) : (startFlush s .cmd a).state = .flushWait ∧ (startFlush s .cmd a).writeStateAfter = a := by
  simp [startFlush]
@[simp] theorem startFlushRaw_state (s : St) (a : After) : (startFlushRaw s a).state = .flushWait ∧ (startFlushRaw s a).writeStateAfter = a := by
  simp [startFlushRaw]

theorem state_ite {l : List CState} {c : Prop} [Decidable c] {a b : St} (ha : c → a.state ∈ l) (hb : ¬ c → b.state ∈ l) :
    (if c then a else b).state ∈ l := rel_ite (R := fun x : St => x.state ∈ l) ha hb

theorem mem_mono {a : CState} {l₁ l₂ : List CState} (h : a ∈ l₁) (hs : ∀ x ∈ l₁, x ∈ l₂ := by simp) : a ∈ l₂ := hs a h

theorem printResponseTest_cmd_state (D : Desc) (s : St) (h : (printResponseTest D s .cmd).2 = true) :
    (printResponseTest D s .cmd).1.state ∈ [.testLoop, .flushWait] := by
  revert h
  simp only [printResponseTest]
  refine rel_ite (R := fun r : St × Bool => r.2 = true → r.1.state ∈ _) (fun _ h => Bool.noConfusion h) (fun _ => ?_)
  refine rel_ite (R := fun r : St × Bool => r.2 = true → r.1.state ∈ _) (fun _ _ => ?_) (fun _ _ => ?_) <;> simp [setStateTL]

theorem startFormatTest_cmd_state (D : Desc) (s : St) :
    (startFormatTest D s .cmd).state ∈ [.flushWait, .formatTestArgs, .testLoop] := by
  simp only [startFormatTest]
  exact state_ite (fun _ => by simp) fun _ => state_ite (fun _ => by simp) fun _ =>
    state_ite (fun h => mem_mono (printResponseTest_cmd_state D _ h)) fun _ => by simp

theorem startFormatRead_cmd_state (D : Desc) (s : St) :
    (startFormatRead D s .cmd).state ∈ [.flushWait, .formatReadArgs, .readLoop] := by
  simp only [startFormatRead]
  (repeat' with_reducible refine state_ite (fun _ => ?_) fun _ => ?_) <;> simp [setStateRL]

theorem nextFormatVar_cmd_state (D : Desc) (s : St) : (nextFormatVar D s .cmd).1.state ∈ [s.state, .flushWait] := by
  simp only [nextFormatVar, apply_ite Prod.fst]
  (repeat' with_reducible refine state_ite (fun _ => ?_) fun _ => ?_) <;> simp [St.setIdx]

/-- successors of a state under one step of the command machine -/
def cmdSucc (s : St) : List CState :=
  match s.state with
  | .error => [.error, .flushWait]
  | .idle => [.idle, .parsePrefix, .error]
  | .parsePrefix => [.parsePrefix, .parseCommandChar, .flushWait, .error]
  | .parseCommandChar => [.parseCommandChar, .searchCommand, .flushWait, .error, .waitReadAck, .updateCommandState]
  | .updateCommandState => [.updateCommandState, .parseCommandChar, .searchCommand]
  | .waitReadAck => [.waitReadAck, .searchCommand, .error]
  | .searchCommand => [.searchCommand, .commandFound, .commandNotFound, .error]
  | .commandFound => [.flushWait, .runLoop, .formatReadArgs, .readLoop, .parseCommandArgs]
  | .commandNotFound => [.flushWait]
  | .parseCommandArgs => [.parseCommandArgs, .flushWait, .parseWriteArgs, .writeLoop, .waitTestAck, .error]
  | .parseWriteArgs => [.parseWriteArgs, .flushWait, .writeLoop]
  | .formatReadArgs => [.formatReadArgs, .flushWait, .readLoop]
  | .waitTestAck => [.waitTestAck, .error, .flushWait, .formatTestArgs, .testLoop]
  | .formatTestArgs => [.formatTestArgs, .flushWait, .testLoop]
  | .writeLoop => [.writeLoop, .flushWait, .hold]
  | .readLoop => [.flushWait, .formatReadArgs, .readLoop, .hold]
  | .testLoop => [.flushWait, .formatTestArgs, .testLoop, .hold, .printCmd]
  | .runLoop => [.runLoop, .flushWait, .hold, .printCmd]
  | .hold => [.hold, .flushWait]
  | .flushWait => if s.ustate = .flushWrite then [.flushWait] else [.flushWrite]
  | .flushWrite => [.flushWrite, s.writeStateAfter.toC]
  | .afterFlushReset => [.idle, .hold]
  | .afterFlushOk => [.flushWait]
  | .afterFlushFormatRead => [.flushWait, .formatReadArgs, .readLoop]
  | .afterFlushFormatTest => [.flushWait, .formatTestArgs, .testLoop]
  | .printCmd => [.printCmd, .flushWait]

theorem readerBody_succ (D : Desc) (t : St) (hr : Reading t.state) : (readerBody D t.state t).state ∈ cmdSucc t := by
  have ft := startFormatTest_cmd_state D t
  simp only [List.mem_cons, List.not_mem_nil, or_false] at ft
  unfold cmdSucc
  rcases hr with h | h | h | h | h | h | h <;> simp only [h, readerBody] <;>
    (repeat' with_reducible refine state_ite (fun _ => ?_) fun _ => ?_) <;> simp [h, ft]

theorem updateCommand_state (D : Desc) (s : St) : (updateCommand D s).1.state ∈ [s.state, .parseCommandChar, .searchCommand] := by
  simp only [updateCommand, updateAdvance]
  (repeat' with_reducible refine state_ite (fun _ => ?_) fun _ => ?_) <;> simp

theorem searchCommand_state (D : Desc) (s : St) :
    (searchCommand D s).1.state = s.state ∨ (searchCommand D s).1.state = .commandFound ∨
    (searchCommand D s).1.state = (if s.currentChar = 10 then .commandNotFound else .error) := by
  rw [(searchCommand_regs D s).2.2.2]
  generalize (if s.currentChar = 10 then CState.commandNotFound else .error) = nf
  (repeat' (with_reducible refine rel_ite (R := fun x : CState => x = s.state ∨ x = .commandFound ∨ x = nf) (fun _ => ?_) (fun _ => ?_))) <;>
    simp

theorem commandFound_state (D : Desc) (s : St) :
    (commandFound D s).1.state ∈
      (if s.cmdType = .write then [CState.parseCommandArgs] else [.flushWait, .runLoop, .formatReadArgs, .readLoop]) := by
  have e : (s.chkUb s.cmd.isSome).cmdType = s.cmdType := by simp
  cases ht : s.cmdType <;> simp only [commandFound, e, ht, reduceCtorEq, if_false, if_true]
  case run => (repeat' with_reducible refine state_ite (fun _ => ?_) fun _ => ?_) <;> simp
  case read => exact state_ite (fun _ => by simp) fun _ => mem_mono (startFormatRead_cmd_state D _)
  all_goals simp

theorem parseWriteArgs_state (D : Desc) (s : St) (i : SvcIn) :
    (parseWriteArgs D s i).1.state ∈ [s.state, .flushWait, .writeLoop] := by
  simp only [parseWriteArgs, apply_ite Prod.fst]
  (repeat' with_reducible refine state_ite (fun _ => ?_) fun _ => ?_) <;> simp

theorem formatReadArgs_cmd_state (D : Desc) (s : St) (i : SvcIn) :
    (formatReadArgs D s .cmd i).1.state ∈ [s.state, .flushWait, .readLoop] := by
  simp only [formatReadArgs, apply_ite Prod.fst]
  exact state_ite (fun _ => by simp) fun _ => state_ite (fun _ => by simp) fun _ =>
    state_ite (fun _ => mem_mono (nextFormatVar_cmd_state D _)) fun _ => state_ite (fun _ => by simp [setStateRL]) fun _ => by simp

theorem formatTestArgs_cmd_state (D : Desc) (s : St) :
    (formatTestArgs D s .cmd).1.state ∈ [s.state, .flushWait, .testLoop] := by
  simp only [formatTestArgs, apply_ite Prod.fst]
  exact state_ite (fun _ => by simp) fun _ => state_ite (fun _ => mem_mono (nextFormatVar_cmd_state D _)) fun _ =>
    state_ite (fun h => mem_mono (printResponseTest_cmd_state D _ h)) fun _ => by simp

/-- states a handler-loop step of kind `k` can lead to from state `st` -/
def loopSucc (k : HKind) (st : CState) : List CState :=
  match k with
  | .write => [st, .flushWait, .hold]
  | .run => [st, .flushWait, .hold, .printCmd]
  | .read => [.flushWait, .formatReadArgs, .readLoop, .hold]
  | .test => [.flushWait, .formatTestArgs, .testLoop, .hold, .printCmd]

theorem callsOf_state (D : Desc) (k : HKind) (n : Spec.Next) (t : St) (hn : n = .cmdListThenOk → k = .run ∨ k = .test) :
    (doCalls D .cmd t (Spec.callsOf k n)).state ∈ loopSucc k t.state := by
  cases n with
  | again =>
    cases k <;> simp only [Spec.callsOf, doCalls, doCall, loopSucc]
    · simp
    · exact mem_mono (startFormatRead_cmd_state D t)
    · simp
    · exact mem_mono (startFormatTest_cmd_state D t)
  | cmdListThenOk =>
    rcases hn rfl with rfl | rfl <;> simp [Spec.callsOf, doCalls, doCall, loopSucc, startPrintCmdList] <;> split <;> simp
  | releaseThen ok => cases k <;> cases ok <;> simp [Spec.callsOf, doCalls, doCall, loopSucc]
  | _ => cases k <;> simp [Spec.callsOf, doCalls, doCall, loopSucc, enableHoldState]

theorem loopStep_state (D : Desc) (k : HKind) (s : St) (ans : HAnswer) :
    (loopStep D .cmd k s ans).state ∈ loopSucc k s.state := by
  have a : (applyNested D .cmd k.edits ((s.chkUb s.cmd.isSome).emit (handlerEv D .cmd k (s.chkUb s.cmd.isSome) ans.ret)) ans.acts).state
      = s.state := by simp
  unfold loopStep
  rw [loopTable_eq, ← a]
  exact callsOf_state D k _ _ (fun h => by rcases respSpec_cmdList h with h | h <;> simp [h])

theorem processHoldState_state (D : Desc) (s : St) : (processHoldState D s).1.state ∈ [s.state, .flushWait] := by
  simp only [processHoldState, apply_ite Prod.fst]
  (repeat' with_reducible refine state_ite (fun _ => ?_) fun _ => ?_) <;> simp

theorem processIoWriteWait_state (s : St) : (processIoWriteWait s).1.state = (if s.ustate = .flushWrite then s.state else .flushWrite) := by
  simp only [processIoWriteWait, bne_iff_ne, ne_eq, ite_not, apply_ite St.state]

theorem cmdListNextCmd_state (D : Desc) (s : St) (h : (cmdListNextCmd D s).2 = true) : (cmdListNextCmd D s).1.state = .printCmd := by
  revert h
  simp only [cmdListNextCmd]
  exact rel_ite (R := fun r : St × Bool => r.2 = true → r.1.state = .printCmd) (fun _ h => Bool.noConfusion h) (fun _ _ => rfl)

theorem printCmdForm_state (D : Desc) (s : St) (avail : Bool) (x : List Byte) (next : CmdType) :
    (printCmdForm D s avail x next).state ∈ [s.state, .printCmd, .flushWait] := by
  simp only [printCmdForm]
  (repeat' with_reducible refine state_ite (fun _ => ?_) fun _ => ?_) <;> simp

theorem printCmdList_state (D : Desc) (s : St) : (printCmdList D s).state ∈ [s.state, .printCmd, .flushWait] := by
  have next : ∀ t : St, (if (cmdListNextCmd D t).2 then (cmdListNextCmd D t).1 else ackOk D (cmdListNextCmd D t).1).state ∈
      [s.state, .printCmd, .flushWait] := fun t =>
    state_ite (fun h => by simp [cmdListNextCmd_state D t h]) fun _ => by simp
  simp only [printCmdList]
  split
  · exact state_ite (fun _ => next _) fun _ => by simp
  · simpa using printCmdForm_state D _ _ _ _
  · simpa using printCmdForm_state D _ _ _ _
  · simpa using printCmdForm_state D _ _ _ _
  · simpa using printCmdForm_state D _ _ _ _
  · exact next _

/-- **The transition graph of the command machine.** -/
theorem commandService_succ (D : Desc) (s : St) (i : SvcIn) : (commandService D s i).1.state ∈ cmdSucc s := by
  by_cases hr : Reading s.state
  · rw [commandService_reader i hr]
    refine reader_fst (P := fun x => x.state ∈ cmdSucc s) s i ?_ fun b => readerBody_succ D (rdChar s b) hr
    unfold cmdSucc
    rcases hr with h | h | h | h | h | h | h <;> simp [h]
  cases hk : loopKind s.state with
  | some k =>
    rw [commandService_loop i hk]
    have g := loopStep_state D k s i.hc
    revert g hk
    unfold cmdSucc
    -- `exact id`: the four loop rows of `cmdSucc` are, as text, the lists of `loopSucc`
    cases s.state <;> simp only [loopKind, reduceCtorEq, false_implies, Option.some.injEq] <;> rintro rfl <;> exact id
  | none =>
  unfold commandService cmdSucc
  cases hs : s.state <;> simp only
  case updateCommandState => simpa [hs] using updateCommand_state D s
  case searchCommand =>
    rcases searchCommand_state D s with h | h | h <;> rw [h]
    · simp [hs]
    · simp
    · split <;> simp
  case commandFound =>
    have g := commandFound_state D s
    by_cases hw : s.cmdType = .write
    · rw [if_pos hw, List.mem_singleton] at g; simp [g]
    · rw [if_neg hw] at g; exact List.mem_append_left [CState.parseCommandArgs] g
  case commandNotFound => simp [commandNotFound]
  case parseWriteArgs => simpa [hs] using parseWriteArgs_state D s i
  case formatReadArgs => simpa [hs] using formatReadArgs_cmd_state D s i
  case formatTestArgs => simpa [hs] using formatTestArgs_cmd_state D s
  case hold => simpa [hs] using processHoldState_state D s
  case flushWait => rw [processIoWriteWait_state]; split <;> simp [hs]
  case flushWrite =>
    have g : (processIoWrite D s i).1.state = s.state ∨ (processIoWrite D s i).1.state = s.writeStateAfter.toC := by simp
    simpa [hs] using g
  case afterFlushReset => simp [resetState]; split <;> simp
  case afterFlushOk => simp
  case afterFlushFormatRead => exact startFormatRead_cmd_state D s
  case afterFlushFormatTest => exact startFormatTest_cmd_state D s
  case printCmd => simpa [hs] using printCmdList_state D s
  -- left: the reading states and the loop states, which `hr` and `hk` exclude
  all_goals simp [Reading, loopKind, hs] at hr hk

theorem idle_pred (D : Desc) (s : St) (i : SvcIn) (h : (commandService D s i).1.state = .idle) :
    s.state = .idle ∨ s.state = .afterFlushReset := by
  have g := commandService_succ D s i
  rw [h] at g
  revert g
  unfold cmdSucc
  cases s.state <;> simp
  · split <;> simp
  · cases s.writeStateAfter <;> simp [After.toC]

theorem hold_pred (D : Desc) (s : St) (i : SvcIn) (h : (commandService D s i).1.state = .hold) :
    s.state = .hold ∨ s.state = .afterFlushReset ∨ (loopKind s.state).isSome := by
  have g := commandService_succ D s i
  rw [h] at g
  revert g
  unfold cmdSucc
  cases s.state <;> simp [loopKind]
  · split <;> simp
  · cases s.writeStateAfter <;> simp [After.toC]

theorem cmd_flushWrite (D : Desc) (s : St) (i : SvcIn) (h : (commandService D s i).1.state = .flushWrite) :
    s.state = .flushWrite ∨ (s.state = .flushWait ∧ s.ustate ≠ .flushWrite) := by
  have g := commandService_succ D s i
  rw [h] at g
  revert g
  unfold cmdSucc
  cases s.state <;> simp
  split <;> simp_all

end Cat
