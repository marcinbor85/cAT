/-
  The ring invariant holds along every history: only `push_unsolicited_cmd` and
  `pop_unsolicited_cmd` touch the ring fields.
-/
import CatVerif.Proofs.Ring
import CatVerif.Proofs.Inv
namespace Cat
open St

theorem RingInv.congr {D : Desc} {s s' : St} (h : SameR s s') (hi : RingInv D s) : RingInv D s' := by
  obtain ⟨a, b, c, d⟩ := h
  exact ⟨hi.cap_pos, a ▸ hi.len, c ▸ hi.head_lt, d ▸ hi.count_le, by rw [b, c, d]; exact hi.tail_eq⟩

theorem readCmdChar_R (s : St) (i : SvcIn) : SameR s (readCmdChar s i).1 := by simp

abbrev Keeps (P : St → Prop) (s s' : St) : Prop := P s → P s'

theorem keeps_of_sameR {D : Desc} {s s' : St} (h : SameR s s') : Keeps (RingInv D) s s' := fun hi => hi.congr h

theorem pushUnsolicited_ring (D : Desc) (s : St) (c : Nat) (t : CmdType) : Keeps (RingInv D) s (pushUnsolicited D s c t).1 := by
  intro hi
  by_cases h : s.rcount = D.cap
  · rw [push_full D s c t h]; exact hi
  · exact (push_ok D s c t hi (by have := hi.count_le; omega)).2.1

theorem applyNested_ring (D : Desc) (f : Fsm) (e : Bool) (acts : List Nested) : ∀ s : St, Keeps (RingInv D) s (applyNested D f e s acts) := by
  induction acts with
  | nil => exact fun s h => h
  | cons a r ih =>
    intro s hi
    -- the lock bracket of a nested API call keeps the invariant if its body does
    have br : ∀ body : St → St × Int, (∀ a, RingInv D a → RingInv D (body a).1) → RingInv D (withMutex D s 0 0 body).1 := fun body hb =>
      withMutex_inv D s 0 0 body (fun _ h => h) (fun _ _ h => h.congr (by simp)) (fun _ _ h => h.congr (by simp)) hb hi
    cases a with
    | trigger c t =>
      simp only [applyNested]
      exact ih _ ((br (fun a => pushUnsolicited D a c (cmdTypeOfInt t)) fun a h => pushUnsolicited_ring D a c _ h).congr (by simp))
    | holdExit st =>
      simp only [applyNested]
      exact ih _ ((br (fun a => holdExit a st) fun a h => h.congr (by simp)).congr (by simp))
    | _ => simp only [applyNested]; exact ih _ (rel_ite (fun _ => hi.congr (by simp)) fun _ => hi)

theorem ring_cbKept (D : Desc) (L : List (List Nested)) : CbKept D L (RingInv D) :=
  ⟨fun q hi => hi.congr q.1, fun f e a acts _ hi => applyNested_ring D f e acts a hi⟩

/-- **One step of the command machine preserves the ring invariant** (its callbacks may push). -/
theorem commandService_ring (D : Desc) (s : St) (i : SvcIn) : Keeps (RingInv D) s (commandService D s i).1 :=
  commandService_kept (ring_cbKept D _) s

theorem checkUnsolicitedBuffers_ring (D : Desc) (s : St) : Keeps (RingInv D) s (checkUnsolicitedBuffers D s) := fun hi =>
  checkUnsolicitedBuffers_cases D s (fun _ => hi) fun hpos p hp => by
    have r := (pop_ok D s hi hpos).2.1
    subst hp
    exact ⟨r.congr (by simp), r.congr (by simp), r.congr (by simp)⟩

theorem unsolicitedEventsService_ring (D : Desc) (s : St) (i : SvcIn) : Keeps (RingInv D) s (unsolicitedEventsService D s i).1 :=
  fun h => unsolicitedEventsService_kept (ring_cbKept D _) s (fun _ => checkUnsolicitedBuffers_ring D s h) h

theorem serviceBody_ring (D : Desc) (s : St) (i : SvcIn) : Keeps (RingInv D) s (serviceBody D s i).1 :=
  fun h => commandService_ring D _ i (unsolicitedEventsService_ring D s i h)

theorem RingInv.cap {D D' : Desc} {s : St} (h : D'.cap = D.cap) (r : RingInv D s) : RingInv D' s := by
  obtain ⟨a, b, c, d, e⟩ := r
  rw [← h] at a b c d e
  exact ⟨a, b, c, d, e⟩

theorem apply_ring (w : World) (op : Op) (h : RingInv w.D w.s) : RingInv (apply w op).1.D (apply w op).1.s :=
  apply_keeps (I := fun a => RingInv a.D a.s) w op
    (lock := fun _ _ h => h.congr (by simp)) (unlock := fun _ _ h => h.congr (by simp))
    (svc := fun i _ a h => serviceBody_ring a.D a.s i h)
    (push := fun c t _ _ _ a h => pushUnsolicited_ring a.D a.s c _ h) (exit := fun _ _ h => h.congr (by simp))
    (flag := fun _ _ de h => h.cap de.cap) (poke := fun _ _ _ _ _ h => h.congr (by simp)) (h.congr (by simp))

end Cat
