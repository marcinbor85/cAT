/-
  The numeric argument parsers against the grammar/value specification (C04), for texts of any
  length.  Once sign or prefix are behind them the three parsers run the same loop: fold digits
  into a value under an overflow guard until a terminator.  `digitLoop_spec` is the induction over
  the field for any such loop; each parser supplies its one-step equations.
-/
import CatVerif.Spec.Num
namespace Cat
open Spec

theorem foldl_digits_ge (base : Nat) (hbase : 0 < base) (dv : Byte → Nat) (ds : List Byte) :
    ∀ v, v ≤ ds.foldl (fun a d => a * base + dv d) v := by
  induction ds with
  | nil => intro v; exact Nat.le_refl v
  | cons d r ih =>
    intro v
    exact Nat.le_trans (Nat.le_trans (Nat.le_mul_of_pos_right v hbase) (Nat.le_add_right _ _)) (ih _)

/-- In `F txt v ok n`, `v` is the value so far, `ok` says that a digit has been seen and `n` counts the
bytes consumed. -/
theorem digitLoop_spec (F : List Byte → Nat → Bool → Nat → PNum) (neg : Bool) (isD : Byte → Bool) (dv : Byte → Nat)
    (base MAX : Nat) (hbase : 0 < base) (hnd : ∀ t, IsTerm t → isD t = false)
    (hdigit : ∀ d r v ok n, d < 256 → isD d = true →
      F (d :: r) v ok n =
        if MAX < v * base + dv d then { ret := -1, used := n + 1 } else F r (v * base + dv d) true (n + 1))
    (hterm : ∀ t r v n, IsTerm t →
      F (t :: r) v true n = { ret := if t = 44 then 1 else 0, val := v, neg := neg, used := n + 1 })
    (hbad : ∀ c r v ok n, c < 256 → isD c = false → ¬ (ok = true ∧ IsTerm c) →
      F (c :: r) v ok n = { ret := -1, used := n + 1 })
    (rest : List Byte) (t : Byte) (ht : IsTerm t) :
    ∀ (field : List Byte) (v : Nat) (ok : Bool) (n : Nat), (∀ b ∈ field, b < 256 ∧ ¬ IsTerm b) → v ≤ MAX →
      (((ok = true ∨ field ≠ []) ∧ ∀ b ∈ field, isD b = true) ∧ field.foldl (fun a d => a * base + dv d) v ≤ MAX →
        F (field ++ t :: rest) v ok n =
          { ret := if t = 44 then 1 else 0, val := field.foldl (fun a d => a * base + dv d) v, neg := neg,
            used := n + field.length + 1 }) ∧
      (¬ (((ok = true ∨ field ≠ []) ∧ ∀ b ∈ field, isD b = true) ∧ field.foldl (fun a d => a * base + dv d) v ≤ MAX) →
        (F (field ++ t :: rest) v ok n).ret = -1) := by
  intro field
  induction field with
  | nil =>
    intro v ok n _ hv
    have ht256 : t < 256 := by unfold IsTerm at ht; omega
    cases ok with
    | true => exact ⟨fun _ => hterm t rest v n ht, fun h => absurd ⟨⟨Or.inl rfl, by simp⟩, hv⟩ h⟩
    | false =>
      refine ⟨fun h => absurd h.1.1 (by simp), fun _ => ?_⟩
      rw [List.nil_append, hbad t rest v false n ht256 (hnd t ht) (by simp)]
  | cons d r ih =>
    intro v ok n hb _
    have ⟨⟨hd256, hdt⟩, hr⟩ := List.forall_mem_cons.1 hb
    rw [List.cons_append]
    cases hd : isD d with
    | false =>
      rw [hbad d _ v ok n hd256 hd (fun h => hdt h.2)]
      refine ⟨fun h => ?_, fun _ => rfl⟩
      have := h.1.2 d (by simp); rw [hd] at this; cases this
    | true =>
      rw [hdigit d _ v ok n hd256 hd]
      by_cases hov : MAX < v * base + dv d
      · rw [if_pos hov]
        refine ⟨fun h => ?_, fun _ => rfl⟩
        have := foldl_digits_ge base hbase dv r (v * base + dv d)
        have := h.2
        simp only [List.foldl_cons] at this; omega
      · rw [if_neg hov]
        have := ih (v * base + dv d) true (n + 1) hr (by omega)
        have e : n + (r.length + 1) + 1 = n + 1 + r.length + 1 := by omega
        simpa [hd, e] using this

theorem isDecChar_table : ∀ b, b < 256 → isDecChar b = isDigit b := by decide +kernel

theorem termGuard {ok : Bool} {c : Byte} (h : ¬ (ok = true ∧ IsTerm c)) : (ok && (c == 0 || c == 44)) = false := by
  simpa [IsTerm] using h

theorem isDigit_range {b : Byte} (h : isDigit b = true) : 48 ≤ b ∧ b ≤ 57 := by simpa [isDigit] using h

theorem isDigit_field {b : Byte} (h : isDigit b = true) : b < 256 ∧ ¬ IsTerm b := by
  have := isDigit_range h; unfold IsTerm; omega

theorem isDigit_term (t : Byte) (ht : IsTerm t) : isDigit t = false := by rcases ht with rfl | rfl <;> rfl

theorem decGuard (M v d : Nat) (h : d ≤ M) : v > (M - d) / 10 ↔ M < v * 10 + d := by omega

theorem parseUIntDec_term (t : Byte) (r : List Byte) (v n : Nat) (ht : IsTerm t) :
    parseUIntDec (t :: r) v true n = { ret := if t = 44 then 1 else 0, val := v, used := n + 1 } := by
  simp [parseUIntDec, show t = 0 ∨ t = 44 from ht]

theorem parseUIntDec_digit (d : Byte) (r : List Byte) (v : Nat) (ok : Bool) (n : Nat) (hd : d < 256) (h : isDigit d = true) :
    parseUIntDec (d :: r) v ok n =
      if U64MAX < v * 10 + (d - 48) then { ret := -1, used := n + 1 } else parseUIntDec r (v * 10 + (d - 48)) true (n + 1) := by
  have hr := isDigit_range h
  have hg : (ok && (d == 0 || d == 44)) = false := termGuard (by unfold IsTerm; omega)
  have hov := decGuard U64MAX v (d - 48) (by unfold U64MAX; omega)
  simp only [parseUIntDec, hg, isDecChar_table d hd, h, hov, if_true, Bool.false_eq_true, if_false]

theorem parseUIntDec_bad (c : Byte) (r : List Byte) (v : Nat) (ok : Bool) (n : Nat) (hc : c < 256) (h : isDigit c = false)
    (hg : ¬ (ok = true ∧ IsTerm c)) : parseUIntDec (c :: r) v ok n = { ret := -1, used := n + 1 } := by
  simp [parseUIntDec, termGuard hg, isDecChar_table c hc, h]

/-- **`parse_uint_decimal` = grammar and value.**  For a field (bytes without NUL or comma, any
length) followed by a terminator: the parser accepts iff the field is one or more decimal digits
whose mathematical value does not exceed 2^64-1, and then returns exactly that value, consumes
exactly the field and its terminator, and reports whether a comma follows. -/
theorem parseUIntDec_spec (field rest : List Byte) (t : Byte) (ht : IsTerm t)
    (hb : ∀ b ∈ field, b < 256 ∧ ¬ IsTerm b) :
    (IsUIntText field ∧ decValue field ≤ U64MAX →
      parseUIntDec (field ++ t :: rest) 0 false 0 =
        { ret := if t = 44 then 1 else 0, val := decValue field, used := field.length + 1 }) ∧
    (¬ (IsUIntText field ∧ decValue field ≤ U64MAX) → (parseUIntDec (field ++ t :: rest) 0 false 0).ret = -1) := by
  have := digitLoop_spec parseUIntDec false isDigit (· - 48) 10 U64MAX (by decide) isDigit_term
    parseUIntDec_digit parseUIntDec_term parseUIntDec_bad rest t ht field 0 false 0 hb (Nat.zero_le _)
  simpa [IsUIntText, decValue, decFrom] using this

/-- magnitude and sign of a signed decimal text -/
def intMag : List Byte → List Byte
  | 43 :: ds => ds
  | 45 :: ds => ds
  | ds => ds
def intNeg : List Byte → Bool
  | 45 :: _ => true
  | _ => false
def intValue (t : List Byte) : Int := if intNeg t then -(decValue (intMag t) : Int) else decValue (intMag t)

theorem intText_nosign (c : Byte) (ds : List Byte) (h43 : c ≠ 43) (h45 : c ≠ 45) :
    IsIntText (c :: ds) = IsUIntText (c :: ds) ∧ intMag (c :: ds) = c :: ds ∧ intNeg (c :: ds) = false :=
  ⟨IsIntText.eq_3 _ (by simp [h43]) (by simp [h45]), intMag.eq_3 _ (by simp [h43]) (by simp [h45]),
    intNeg.eq_2 _ (by simp [h45])⟩

theorem parseIntDec_minus (r : List Byte) (v n : Nat) : parseIntDec (45 :: r) v 0 false n = parseIntDec r v 2 false (n + 1) := by
  simp [parseIntDec]

theorem parseIntDec_plus (r : List Byte) (v n : Nat) : parseIntDec (43 :: r) v 0 false n = parseIntDec r v 1 false (n + 1) := by
  simp [parseIntDec]

theorem parseIntDec_term (sg : Nat) (t : Byte) (r : List Byte) (v n : Nat) (ht : IsTerm t) :
    parseIntDec (t :: r) v sg true n = { ret := if t = 44 then 1 else 0, val := v, neg := sg == 2, used := n + 1 } := by
  simp [parseIntDec, show t = 0 ∨ t = 44 from ht]

theorem parseIntDec_digit (sg : Nat) (hsg : sg ≠ 0) (d : Byte) (r : List Byte) (v : Nat) (ok : Bool) (n : Nat) (hd : d < 256)
    (h : isDigit d = true) :
    parseIntDec (d :: r) v sg ok n =
      if I64MAX < v * 10 + (d - 48) then { ret := -1, used := n + 1 } else parseIntDec r (v * 10 + (d - 48)) sg true (n + 1) := by
  have hr := isDigit_range h
  have hg : (ok && (d == 0 || d == 44)) = false := termGuard (by unfold IsTerm; omega)
  have hov := decGuard I64MAX v (d - 48) (by unfold I64MAX; omega)
  have hs : (sg == 0) = false := by simpa using hsg
  simp only [parseIntDec, hg, hs, isDecChar_table d hd, h, hov, if_true, Bool.false_eq_true, if_false]

theorem parseIntDec_bad (sg : Nat) (hsg : sg ≠ 0) (c : Byte) (r : List Byte) (v : Nat) (ok : Bool) (n : Nat) (hc : c < 256)
    (h : isDigit c = false) (hg : ¬ (ok = true ∧ IsTerm c)) : parseIntDec (c :: r) v sg ok n = { ret := -1, used := n + 1 } := by
  simp [parseIntDec, termGuard hg, hsg, isDecChar_table c hc, h]

theorem parseIntDec_nosign (c : Byte) (r : List Byte) (n : Nat) (hc : c < 256) (h43 : c ≠ 43) (h45 : c ≠ 45) :
    parseIntDec (c :: r) 0 0 false n = parseIntDec (c :: r) 0 1 false n := by
  cases h : isDigit c with
  | true =>
    have hr := isDigit_range h
    have : ¬ I64MAX < 0 * 10 + (c - 48) := by unfold I64MAX; omega
    rw [parseIntDec_digit 1 (by decide) c r 0 false n hc h, if_neg this]
    simp [parseIntDec, h43, h45, isDecChar_table c hc, h]
  | false =>
    rw [parseIntDec_bad 1 (by decide) c r 0 false n hc h (by simp)]
    simp [parseIntDec, h43, h45, isDecChar_table c hc, h]

/-- **`parse_int_decimal` = grammar and value** (magnitude up to 2^63-1 accepted by the parser; the
width check follows in `validate_int_range`). -/
theorem parseIntDec_spec (field rest : List Byte) (t : Byte) (ht : IsTerm t)
    (hb : ∀ b ∈ field, b < 256 ∧ ¬ IsTerm b) :
    (IsIntText field ∧ decValue (intMag field) ≤ I64MAX →
      parseIntDec (field ++ t :: rest) 0 0 false 0 =
        { ret := if t = 44 then 1 else 0, val := decValue (intMag field), neg := intNeg field, used := field.length + 1 }) ∧
    (¬ (IsIntText field ∧ decValue (intMag field) ≤ I64MAX) → (parseIntDec (field ++ t :: rest) 0 0 false 0).ret = -1) := by
  have loop := fun (sg : Nat) (hsg : sg ≠ 0) =>
    digitLoop_spec (fun txt v ok n => parseIntDec txt v sg ok n) (sg == 2) isDigit (· - 48) 10 I64MAX (by decide)
      isDigit_term (parseIntDec_digit sg hsg) (parseIntDec_term sg) (parseIntDec_bad sg hsg) rest t ht
  have ht' : t < 256 ∧ t ≠ 43 ∧ t ≠ 45 := by unfold IsTerm at ht; omega
  match field, hb with
  | [], _ =>
    have := loop 1 (by decide) [] 0 false 0 (by simp) (Nat.zero_le _)
    rw [List.nil_append, parseIntDec_nosign t rest 0 ht'.1 ht'.2.1 ht'.2.2]
    simpa [IsIntText, IsUIntText] using this
  | c :: ds, hb =>
    have ⟨⟨hc, _⟩, hds⟩ := List.forall_mem_cons.1 hb
    by_cases h45 : c = 45
    · subst h45
      have := loop 2 (by decide) ds 0 false 1 hds (Nat.zero_le _)
      rw [List.cons_append, parseIntDec_minus]
      simpa [IsIntText, intMag, intNeg, IsUIntText, decValue, decFrom, Nat.add_comm 1] using this
    · by_cases h43 : c = 43
      · subst h43
        have := loop 1 (by decide) ds 0 false 1 hds (Nat.zero_le _)
        rw [List.cons_append, parseIntDec_plus]
        simpa [IsIntText, intMag, intNeg, IsUIntText, decValue, decFrom, Nat.add_comm 1] using this
      · have ⟨hI, hM, hN⟩ := intText_nosign c ds h43 h45
        have := loop 1 (by decide) (c :: ds) 0 false 0 hb (Nat.zero_le _)
        rw [hI, hM, hN, List.cons_append, parseIntDec_nosign c _ 0 hc h43 h45]
        simpa [IsUIntText, decValue, decFrom] using this

/-! The hex loop folds case first: the generated classes behind `to_upper`, swept over all byte values. -/

theorem toUpper_table : ∀ b, b < 256 → toUpper b = (if 97 ≤ b ∧ b ≤ 122 then b - 32 else b) := by decide +kernel
theorem isHexChar_upper_table : ∀ b, b < 256 → isHexChar (toUpper b) = isHexDigit b := by decide +kernel
theorem hexVal_upper_table : ∀ b, b < 256 → isHexDigit b = true → hexVal (toUpper b) = hexDigitValue b := by decide +kernel

theorem toUpper_zero : toUpper 0 = 0 := by decide
theorem toUpper_comma : toUpper 44 = 44 := by decide
theorem isHexChar_zero : isHexChar 0 = false := by decide
theorem isHexChar_comma : isHexChar 44 = false := by decide

theorem isHexDigit_range {b : Byte} (h : isHexDigit b = true) :
    (48 ≤ b ∧ b ≤ 57) ∨ (65 ≤ b ∧ b ≤ 70) ∨ (97 ≤ b ∧ b ≤ 102) := by simpa [isHexDigit] using h

theorem isHexDigit_field {b : Byte} (h : isHexDigit b = true) : b < 256 ∧ ¬ IsTerm b := by
  have := isHexDigit_range h; unfold IsTerm; omega

theorem hexDigitValue_lt (b : Byte) (h : isHexDigit b = true) : hexDigitValue b < 16 := by
  have := isHexDigit_range h
  unfold hexDigitValue
  split
  · omega
  · split <;> omega

theorem isHexDigit_term (t : Byte) (ht : IsTerm t) : isHexDigit t = false := by rcases ht with rfl | rfl <;> rfl

theorem isTerm_toUpper (c : Byte) (hc : c < 256) : IsTerm (toUpper c) ↔ IsTerm c := by
  rw [toUpper_table c hc]; unfold IsTerm; split <;> omega

theorem parseNumHex_st0 (c : Byte) (r : List Byte) (v n : Nat) (hc : c < 256) :
    parseNumHex (c :: r) v 0 n = if c = 48 then parseNumHex r v 1 (n + 1) else { ret := -1, used := n + 1 } := by
  have : toUpper c = 48 ↔ c = 48 := by rw [toUpper_table c hc]; split <;> omega
  simp [parseNumHex, this]

theorem parseNumHex_st1 (c : Byte) (r : List Byte) (v n : Nat) (hc : c < 256) :
    parseNumHex (c :: r) v 1 n = if c = 88 ∨ c = 120 then parseNumHex r v 2 (n + 1) else { ret := -1, used := n + 1 } := by
  have : toUpper c = 88 ↔ c = 88 ∨ c = 120 := by rw [toUpper_table c hc]; split <;> omega
  by_cases h : c = 88 ∨ c = 120 <;> simp [parseNumHex, this, h]

/-! The digit loop of `parse_num_hexadecimal` is state 2 before the first digit and state 3 after it. -/

theorem parseNumHex_term (t : Byte) (r : List Byte) (v n : Nat) (ht : IsTerm t) :
    parseNumHex (t :: r) v 3 n = { ret := if t = 44 then 1 else 0, val := v, used := n + 1 } := by
  rcases ht with rfl | rfl <;> simp [parseNumHex, toUpper_zero, toUpper_comma]

theorem hexGuard (ok : Bool) (c : Byte) (hc : c < 256) (hg : ¬ (ok = true ∧ IsTerm c)) :
    (decide ((bif ok then 3 else 2) ≥ 3) && (toUpper c == 0 || toUpper c == 44)) = false := by
  have : decide ((bif ok then 3 else 2) ≥ 3) = ok := by cases ok <;> rfl
  rw [this]; exact termGuard (by rwa [isTerm_toUpper c hc])

theorem parseNumHex_digit (d : Byte) (r : List Byte) (v : Nat) (ok : Bool) (n : Nat) (hd : d < 256) (h : isHexDigit d = true) :
    parseNumHex (d :: r) v (bif ok then 3 else 2) n =
      if U64MAX < v * 16 + hexDigitValue d then { ret := -1, used := n + 1 }
      else parseNumHex r (v * 16 + hexDigitValue d) 3 (n + 1) := by
  have hg := hexGuard ok d hd fun ht => (isHexDigit_field h).2 ht.2
  have hov : (v / 2 ^ 60 != 0) = true ↔ U64MAX < v * 16 + hexDigitValue d := by
    have := hexDigitValue_lt d h
    rw [bne_iff_ne, Ne, Nat.div_eq_zero_iff]; unfold U64MAX; omega
  have hs : ((bif ok then 3 else 2) == 0) = false ∧ ((bif ok then 3 else 2) == 1) = false := by cases ok <;> exact ⟨rfl, rfl⟩
  simp only [parseNumHex, hg, hs.1, hs.2, isHexChar_upper_table d hd, hexVal_upper_table d hd h, h, hov, if_true,
    Bool.false_eq_true, if_false]

theorem parseNumHex_bad (c : Byte) (r : List Byte) (v : Nat) (ok : Bool) (n : Nat) (hc : c < 256) (h : isHexDigit c = false)
    (hg : ¬ (ok = true ∧ IsTerm c)) : parseNumHex (c :: r) v (bif ok then 3 else 2) n = { ret := -1, used := n + 1 } := by
  have hs : ((bif ok then 3 else 2) == 0) = false ∧ ((bif ok then 3 else 2) == 1) = false := by cases ok <;> exact ⟨rfl, rfl⟩
  simp only [parseNumHex, hexGuard ok c hc hg, hs.1, hs.2, isHexChar_upper_table c hc, h, Bool.false_eq_true, if_false]

/-- the hex digits of a `0x…` text -/
def hexBody : List Byte → List Byte
  | _ :: _ :: ds => ds
  | _ => []

theorem isHexText_cons2 (a x : Byte) (ds : List Byte) :
    IsHexText (a :: x :: ds) ↔ a = 48 ∧ (x = 88 ∨ x = 120) ∧ ds ≠ [] ∧ ∀ b ∈ ds, isHexDigit b = true := by
  constructor
  · rintro ⟨x', ds', e, hx, h⟩
    cases e
    exact ⟨rfl, hx.symm, h⟩
  · rintro ⟨rfl, hx, h⟩
    exact ⟨x, ds, rfl, hx.symm, h⟩

/-- **`parse_num_hexadecimal` = grammar and value**: accepted iff the field is `0x`/`0X` followed
by one or more hex digits (either case) whose value is below 2^64; the result is that value. -/
theorem parseNumHex_spec (field rest : List Byte) (t : Byte) (ht : IsTerm t)
    (hb : ∀ b ∈ field, b < 256 ∧ ¬ IsTerm b) :
    (IsHexText field ∧ hexValue (hexBody field) ≤ U64MAX →
      parseNumHex (field ++ t :: rest) 0 0 0 =
        { ret := if t = 44 then 1 else 0, val := hexValue (hexBody field), used := field.length + 1 }) ∧
    (¬ (IsHexText field ∧ hexValue (hexBody field) ≤ U64MAX) → (parseNumHex (field ++ t :: rest) 0 0 0).ret = -1) := by
  have ht' : t < 256 ∧ t ≠ 48 ∧ ¬ (t = 88 ∨ t = 120) := by unfold IsTerm at ht; omega
  match field, hb with
  | [], _ =>
    refine ⟨fun h => ?_, fun _ => ?_⟩
    · obtain ⟨⟨x, ds, e, _⟩, _⟩ := h; cases e
    rw [List.nil_append, parseNumHex_st0 t rest 0 0 ht'.1, if_neg ht'.2.1]
  | [a], hb =>
    refine ⟨fun h => ?_, fun _ => ?_⟩
    · obtain ⟨⟨x, ds, e, _⟩, _⟩ := h; cases e
    rw [List.cons_append, List.nil_append, parseNumHex_st0 a _ 0 0 (hb a (by simp)).1, parseNumHex_st1 t rest 0 _ ht'.1,
      if_neg ht'.2.2]
    split <;> rfl
  | a :: x :: ds, hb =>
    have := digitLoop_spec (fun txt v ok n => parseNumHex txt v (bif ok then 3 else 2) n) false isHexDigit hexDigitValue 16
      U64MAX (by decide) isHexDigit_term parseNumHex_digit parseNumHex_term parseNumHex_bad rest t ht
      ds 0 false 2 (fun b h => hb b (by simp [h])) (Nat.zero_le _)
    rw [isHexText_cons2, List.cons_append, List.cons_append, parseNumHex_st0 a _ 0 0 (hb a (by simp)).1,
      parseNumHex_st1 x _ 0 _ (hb x (by simp)).1]
    by_cases h : a = 48 ∧ (x = 88 ∨ x = 120)
    · rw [if_pos h.1, if_pos h.2]
      simpa [h.1, h.2, hexBody, hexValue, hexFrom, Nat.add_comm 2] using this
    · refine ⟨fun ⟨⟨ha, hx, _⟩, _⟩ => absurd ⟨ha, hx⟩ h, fun _ => ?_⟩
      by_cases ha : a = 48
      · rw [if_pos ha, if_neg (fun hx => h ⟨ha, hx⟩)]
      · rw [if_neg ha]

end Cat
