/-
  Transition facts of the unsolicited machine.  Every function of it but the wait for the output is a `UStep`: it keeps
  the state or moves to one other than FLUSH_IO_WRITE; so that state is entered from the wait only (`uns_flushWrite`).
-/
import CatVerif.Proofs.StepU
import CatVerif.Proofs.Ring
namespace Cat
open St

@[simp] theorem startFlush_uns_ustate (s : St) (a : After) : (startFlush s .uns a).ustate = .flushWait ∧ (startFlush s .uns a).uwriteStateAfter = a := by
  simp [startFlush]

/-- states other than FLUSH_IO_WRITE that the unsolicited machine's helpers can produce -/
def uOther : List UState := [.idle, .flushWait, .formatReadArgs, .readLoop, .formatTestArgs, .testLoop]

/-- the unsolicited machine's state is kept or moves to a state other than FLUSH_IO_WRITE -/
def UStep (s s' : St) : Prop := s'.ustate = s.ustate ∨ s'.ustate ∈ uOther

theorem UStep.of_eq {s s' : St} (h : s'.ustate = s.ustate) : UStep s s' := Or.inl h
theorem UStep.trans {a b c : St} (h1 : UStep a b) (h2 : UStep b c) : UStep a c := by
  unfold UStep at *
  rcases h2 with h | h
  · rw [h]; exact h1
  · exact Or.inr h

theorem printResponseTest_ustep (D : Desc) (s : St) : UStep s (printResponseTest D s .uns).1 := by
  simp only [printResponseTest, apply_ite Prod.fst]
  refine rel_ite (fun _ => .of_eq (by split <;> simp)) fun _ => ?_
  exact rel_ite (fun _ => .inr (by simp [setStateTL, uOther])) fun _ => .inr (by simp [uOther])

theorem startFormatTest_ustep (D : Desc) (s : St) : UStep s (startFormatTest D s .uns) := by
  simp only [startFormatTest]
  refine rel_ite (fun _ => .inr (by simp [uOther])) fun _ => rel_ite (fun _ => .inr (by simp [uOther])) fun _ => ?_
  exact rel_ite (fun _ => .trans (.of_eq (by simp)) (printResponseTest_ustep D _)) fun _ => .inr (by simp [uOther])

theorem startFormatRead_ustep (D : Desc) (s : St) : UStep s (startFormatRead D s .uns) := by
  simp only [startFormatRead]
  (repeat' with_reducible refine rel_ite (fun _ => ?_) fun _ => ?_) <;> exact .inr (by simp [setStateRL, uOther])

theorem nextFormatVar_ustep (D : Desc) (s : St) : UStep s (nextFormatVar D s .uns).1 := by
  simp only [nextFormatVar, apply_ite Prod.fst]
  exact rel_ite (fun _ => rel_ite (fun _ => .inr (by simp [uOther])) fun _ => .of_eq (by simp [St.setIdx])) fun _ =>
    .of_eq (by simp [St.setIdx])

theorem checkUnsolicitedBuffers_ustep (D : Desc) (s : St) : UStep s (checkUnsolicitedBuffers D s) :=
  checkUnsolicitedBuffers_cases D s (fun _ => .of_eq rfl) fun _ p hp =>
    have e : UStep s p := .of_eq (by simp [hp])
    ⟨e.trans (startFormatRead_ustep D p), e.trans (startFormatTest_ustep D p), e⟩

theorem formatReadArgs_ustep (D : Desc) (s : St) (i : SvcIn) : UStep s (formatReadArgs D s .uns i).1 := by
  simp only [formatReadArgs, apply_ite Prod.fst]
  refine rel_ite (fun _ => .inr (by simp [uOther])) fun _ => rel_ite (fun _ => .inr (by simp [uOther])) fun _ =>
    rel_ite (fun _ => ?_) fun _ => rel_ite (fun _ => .inr (by simp [setStateRL, uOther])) fun _ => .inr (by simp [uOther])
  exact .trans (.of_eq (by simp)) (nextFormatVar_ustep D _)

theorem formatTestArgs_ustep (D : Desc) (s : St) : UStep s (formatTestArgs D s .uns).1 := by
  simp only [formatTestArgs, apply_ite Prod.fst]
  refine rel_ite (fun _ => .inr (by simp [uOther])) fun _ => rel_ite (fun _ => ?_) fun _ =>
    rel_ite (fun _ => .trans ?_ (printResponseTest_ustep D _)) fun _ => .inr (by simp [uOther])
  all_goals exact .trans (.of_eq (by simp)) (nextFormatVar_ustep D _)

theorem doCall_ustep (D : Desc) (s : St) (c : Call) : UStep s (doCall D .uns s c) := by
  cases c with
  | startFormatRead => exact startFormatRead_ustep D s
  | startFormatTest => exact startFormatTest_ustep D s
  | endOk | endError | startFlush a => exact .inr (by simp [doCall, uOther])
  | _ => exact .of_eq (by simp [doCall])

theorem loopStep_ustep (D : Desc) (k : HKind) (s : St) (ans : HAnswer) : UStep s (loopStep D .uns k s ans) := by
  unfold loopStep
  exact .trans (.of_eq (by simp)) (doCalls_rel (R := UStep) (fun _ => .of_eq rfl) (fun _ _ _ => .trans) D .uns _
    (fun a c _ => doCall_ustep D a c) _)

theorem ustep_not_fw {s s' : St} (h : UStep s s') (h' : s'.ustate = .flushWrite) : s.ustate = .flushWrite := by
  rcases h with h | h
  · rw [← h]; exact h'
  · simp [uOther, h'] at h

theorem uns_flushWrite (D : Desc) (s : St) (i : SvcIn)
    (h : (unsolicitedEventsService D s i).1.ustate = .flushWrite) :
    s.ustate = .flushWrite ∨ (s.ustate = .flushWait ∧ s.state ≠ .flushWrite) := by
  cases hs : s.ustate <;> simp only [unsolicitedEventsService, hs] at h
  case idle => exact .inl (hs ▸ ustep_not_fw (checkUnsolicitedBuffers_ustep D s) h)
  case formatReadArgs => exact .inl (hs ▸ ustep_not_fw (formatReadArgs_ustep D s i) h)
  case formatTestArgs => exact .inl (hs ▸ ustep_not_fw (formatTestArgs_ustep D s) h)
  case readLoop => rw [processReadLoop_eq] at h; exact .inl (hs ▸ ustep_not_fw (loopStep_ustep D .read s _) h)
  case testLoop => rw [processTestLoop_eq] at h; exact .inl (hs ▸ ustep_not_fw (loopStep_ustep D .test s _) h)
  case flushWait => exact .inr ⟨rfl, fun hc => by simp [unsolicitedProcessIoWriteWait, hc, hs] at h⟩
  case flushWrite => exact .inl rfl
  case afterFlushReset => simp [unsolicitedResetState] at h
  case afterFlushOk => simp at h
  case afterFlushFormatRead => exact .inl (hs ▸ ustep_not_fw (startFormatRead_ustep D s) h)
  case afterFlushFormatTest => exact .inl (hs ▸ ustep_not_fw (startFormatTest_ustep D s) h)

theorem uns_flush_keeps_state (D : Desc) (s : St) (i : SvcIn) (h : s.ustate = .flushWait ∨ s.ustate = .flushWrite) :
    (unsolicitedEventsService D s i).1.state = s.state := by
  unfold unsolicitedEventsService
  rcases h with h | h <;> simp [h]

end Cat
