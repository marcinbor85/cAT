/-
  Output units of the unsolicited machine (C11): its vocabulary in the C11 statements — `remU`, `outU`, `FlushInvU`, `OpenU`,
  `TraceU` — read off the notions for machine `f`.  The closing line break of an unsolicited unit is chosen when the text
  has been sent, from the `cr_flag` in force at that moment — which the command machine may have changed meanwhile — so the
  accounting keeps it out of the remainder until it is chosen.
-/
import CatVerif.Proofs.UnitsHist
namespace Cat
open St

def payloadU (D : Desc) (s : St) : List Byte := (region D s .uns 0).takeWhile (· ≠ 0)

/-- bytes the unsolicited machine still has to get accepted for the unit in progress, not counting
a closing line break that has not been chosen yet -/
def remU (D : Desc) (s : St) : List Byte :=
  if s.ustate = .flushWait ∨ s.ustate = .flushWrite then
    match s.uwriteState, s.uwriteSrc with
    | 0, .nl off => (nlBytes off).drop s.uposition ++ payloadU D s
    | 1, .main => (payloadU D s).drop s.uposition
    | 2, .nl off => (nlBytes off).drop s.uposition
    | 2, .main => (payloadU D s).drop s.uposition
    | _, _ => []
  else []

/-- bytes of the unsolicited machine accepted by `write` in a log -/
def outU (l : List Ev) : List Byte :=
  l.filterMap (fun e => match e with
    | .wr .uns b true _ => some b
    | _ => none)

@[simp] theorem outU_append (a b : List Ev) : outU (a ++ b) = outU a ++ outU b := by simp [outU]

structure FlushInvU (D : Desc) (s : St) : Prop where
  term : (payloadU D s).length < (region D s .uns 0).length
  cursor : s.uwriteSrc = .main → s.uposition ≤ (payloadU D s).length
  phase : (s.uwriteState = 0 ∧ ∃ off, s.uwriteSrc = .nl off) ∨ (s.uwriteState = 1 ∧ s.uwriteSrc = .main) ∨ s.uwriteState = 2

/-- a unit is in progress and its closing line break has not been chosen -/
def OpenU (s : St) : Prop := (s.ustate = .flushWait ∨ s.ustate = .flushWrite) ∧ s.uwriteState < 2

/-- the accounting invariant: `acc` = everything accepted so far -/
structure TraceU (D : Desc) (acc : List Byte) (s : St) : Prop where
  opened : OpenU s → ∃ (us : List (List Byte)) (a : List Byte), (∀ u ∈ us, UnitShape u) ∧ IsNl a ∧
    acc ++ remU D s = us.flatten ++ a ++ payloadU D s
  closed : ¬ OpenU s → ∃ us : List (List Byte), (∀ u ∈ us, UnitShape u) ∧ acc ++ remU D s = us.flatten

/-- all bytes of the unsolicited machine accepted by `io->write` during a history -/
def outAllU (tr : List (Int × List Ev)) : List Byte := (tr.map (fun x => outU x.2)).flatten

theorem flushInvU_iff {D : Desc} {s : St} : FlushInvU D s ↔ FlushInvF D s .uns :=
  ⟨fun h => ⟨h.term, h.cursor, h.phase⟩, fun h => ⟨h.term, h.cursor, h.phase⟩⟩

theorem outU_eq : outU = outF .uns := by
  funext l
  refine congrArg (List.filterMap · l) (funext fun e => ?_)
  cases e with
  | wr g b a p => cases g <;> cases a <;> rfl
  | _ => rfl

theorem openU_iff {s : St} : OpenU s ↔ OpenF s .uns := by
  simp only [OpenU, OpenF, ph_flush_iff]; rfl

theorem remU_eq {D : Desc} {s : St} (fo : FlushOkF D s .uns) : remU D s = remF D s .uns := by
  by_cases hf : s.ustate = .flushWait ∨ s.ustate = .flushWrite
  · have hp := (ph_flush_iff s .uns).2 hf
    rcases (flushInvU_iff.2 (fo hp)).phase with ⟨h0, off, hsrc⟩ | ⟨h1, hsrc⟩ | h2
    · simp [remU, remF, srcBytes, St.wst, St.wsrc, St.pos, payload, payloadU, hf, hp, h0, hsrc]
    · simp [remU, remF, srcBytes, St.wst, St.wsrc, St.pos, payload, payloadU, hf, hp, h1, hsrc]
    · cases hsrc : s.uwriteSrc <;> simp [remU, remF, srcBytes, St.wst, St.wsrc, St.pos, payload, payloadU, hf, hp, h2, hsrc]
  · have hp : s.ph .uns ≠ .flush := fun h => hf ((ph_flush_iff s .uns).1 h)
    simp [remU, remF, hf, hp]

theorem TraceF.uns {D : Desc} {acc : List Byte} {s : St} (t : TraceF D acc s .uns) (fo : FlushOkF D s .uns) : TraceU D acc s := by
  have r := remU_eq fo
  refine ⟨fun o => ?_, fun o => r ▸ t.closed (fun x => o (openU_iff.2 x))⟩
  obtain ⟨_, a, ⟨us, hs, rfl⟩, ha, he⟩ := t.opened (openU_iff.1 o)
  exact ⟨us, a, hs, ha, r ▸ he⟩

end Cat
