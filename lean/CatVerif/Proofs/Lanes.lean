/-
  Name matching (C02): character classes, the 2-bit match-state lanes, and the per-command update
  step against the specification `matchName`.
-/
import CatVerif.Proofs.Step
import CatVerif.Proofs.ParseNum
namespace Cat
open St

theorem toUpper_idem : ∀ b, b < 256 → toUpper (toUpper b) = toUpper b := by
  intro b hb
  rw [toUpper_table b hb]
  split
  · rw [toUpper_table _ (by omega), if_neg (by omega)]
  · rw [toUpper_table b hb, if_neg ‹_›]

theorem toUpper_lt : ∀ b, b < 256 → toUpper b < 256 := by
  intro b _
  unfold toUpper uc
  omega

theorem lane_set_lt : ∀ b, b < 256 → ∀ i, i < 4 → ∀ v, v < 4 → laneSet b i v < 256 :=
  fun _ _ _ _ _ _ => Nat.mod_lt _ (by decide)
theorem lane_get_lt (b i : Nat) : laneGet b i < 4 := by unfold laneGet; exact Nat.mod_lt _ (by decide)

/-- the initial pattern of `prepare_parse_command`: every lane is PARTIAL_MATCH -/
theorem lanesInit_all_partial (i : Nat) : laneGet lanesInit i = 1 := by
  have : ∀ k, k < 4 → lanesInit / 4 ^ k % 4 = 1 := by decide
  exact this _ (Nat.mod_lt _ (by decide))

theorem mod_div_mod4 (x q m : Nat) (h : q * 4 ∣ m) : x % m / q % 4 = x / q % 4 := by
  rw [← Nat.mod_mul_right_div_self, Nat.mod_mod_of_dvd _ h, Nat.mod_mul_right_div_self]

theorem pow4_dvd {k n : Nat} (h : k + 1 ≤ n) : 4 ^ k * 4 ∣ 4 ^ n := by
  rw [← Nat.pow_succ]; exact Nat.pow_dvd_pow 4 h

/-- With `p = 4 ^ (i % 4)` the write replaces the digit of weight `p` and so leaves `b / (4 * p)` and `b % p`
alone; a lane above is a digit of the former, a lane below a digit of the latter. -/
theorem laneGet_laneSet (b i j v : Nat) :
    laneGet (laneSet b i v) j = if i % 4 = j % 4 then v % 4 else laneGet b j := by
  unfold laneGet laneSet
  generalize i % 4 = k
  generalize hk' : j % 4 = k'
  rw [mod_div_mod4 _ _ 256 (pow4_dvd (n := 4) (by omega))]
  generalize hy : b - b / 4 ^ k % 4 * 4 ^ k + v % 4 * 4 ^ k = y
  have hle : 4 ^ k * (b / 4 ^ k % 4) ≤ b :=
    Nat.le_trans (Nat.mul_le_mul_left _ (Nat.mod_le _ _)) (Nat.mul_div_le _ _)
  have hdiv : y / 4 ^ k = b / 4 ^ k - b / 4 ^ k % 4 + v % 4 := by
    rw [← hy, Nat.add_mul_div_right _ _ (Nat.pow_pos (by decide)), Nat.mul_comm, Nat.sub_mul_div]
  have hmod : y % 4 ^ k = b % 4 ^ k := by
    rw [← hy, Nat.add_mul_mod_self_right, Nat.mul_comm, Nat.sub_mul_mod hle]
  clear hy hle  -- here and below: what `omega` cannot use it still normalises, a quarter of the cost
  rcases Nat.lt_trichotomy k k' with h | h | h
  · obtain ⟨e, rfl⟩ : ∃ e, k' = k + 1 + e := ⟨k' - k - 1, by omega⟩
    simp only [Nat.pow_add, Nat.pow_one, ← Nat.div_div_eq_div_mul]
    rw [hdiv, if_neg (by omega)]
    clear hdiv hmod
    generalize b / 4 ^ k = c
    congr 2
    omega
  · subst h
    rw [if_pos rfl, hdiv]
    clear hdiv hmod
    generalize b / 4 ^ k = c
    omega
  · have hd := pow4_dvd (show k' + 1 ≤ k from h)
    rw [← mod_div_mod4 y _ _ hd, hmod, mod_div_mod4 b _ _ hd, if_neg (by omega)]

namespace Spec
/-- match state of a command name against the typed (already upper-cased) name:
0 = no match, 1 = the typed name is a proper prefix, 2 = equal -/
def matchName (name typed : List Byte) : Nat :=
  if typed.length ≤ name.length ∧ (name.map toUpper).take typed.length = typed then
    (if typed.length = name.length then 2 else 1)
  else 0
end Spec

/-- one update of one lane, as `update_command` computes it from the lane's old value -/
def stepMatch (old : Nat) (name : List Byte) (len : Nat) (ch : Byte) : Nat :=
  if old = 0 then 0
  else if len > name.length then 0
  else if toUpper (name.getD (len - 1) 0) ≠ ch then 0
  else if len = name.length then 2
  else old

theorem take_map_snoc (name typed : List Byte) (ch : Byte) (hlt : typed.length < name.length) :
    (name.map toUpper).take (typed.length + 1) = typed ++ [ch] ↔
      (name.map toUpper).take typed.length = typed ∧ toUpper (name.getD typed.length 0) = ch := by
  simp [List.take_add_one, List.getD, List.getElem?_eq_getElem hlt, List.append_singleton_inj]

/-- **The update step computes the specification.** -/
theorem stepMatch_spec (name typed : List Byte) (ch : Byte) :
    stepMatch (Spec.matchName name typed) name (typed.length + 1) ch = Spec.matchName name (typed ++ [ch]) := by
  unfold stepMatch Spec.matchName
  simp only [List.length_append, List.length_singleton, Nat.add_sub_cancel]
  by_cases hlt : typed.length < name.length
  · -- room for one more character: both sides ask "was a prefix" and "the character fits"
    simp only [take_map_snoc name typed ch hlt]
    have hle := Nat.succ_le_of_lt hlt
    by_cases hp : (name.map toUpper).take typed.length = typed
    · simp [hp, Nat.le_of_lt hlt, Nat.ne_of_lt hlt, hle, Nat.not_lt.mpr hle]
    · simp [hp]
  · -- the typed name is already as long as the name: no match before or no room after
    have h1 : typed.length + 1 > name.length := by omega
    have h2 : ¬ typed.length + 1 ≤ name.length := by omega
    simp only [h1, h2, false_and, if_true, if_false, ite_self]

theorem matchName_nil (name : List Byte) : Spec.matchName name [] = if name = [] then 2 else 1 := by
  unfold Spec.matchName
  cases name <;> simp

theorem getB_setB_cmd (D : Desc) (s : St) (i j v : Nat) (hi : i < D.cmdCap) (hl : i < s.buf.length) :
    getB D (setB D s .cmd i v) .cmd j = if i = j then v else getB D s .cmd j := by
  have : i < D.capOf .cmd := hi
  simp only [setB, this, if_true, getB]
  by_cases hij : i = j
  · subst hij; simp [List.getD, hl]
  · simp [List.getD, hij]

/-- the match state the parser reads for command `i` (0 for disabled commands) -/
def laneOf (D : Desc) (s : St) (i : Nat) : Nat := (getCmdState D s i).2

theorem laneOf_enabled (D : Desc) (s : St) (i : Nat) (h : disabledByIndex D.groups i = false) :
    laneOf D s i = laneGet (getB D s .cmd (i / 4)) i := by
  simp [laneOf, getCmdState, h, getB]

theorem laneOf_disabled (D : Desc) (s : St) (j : Nat) (h : disabledByIndex D.groups j = true) : laneOf D s j = 0 := by
  simp [laneOf, getCmdState, h]

theorem laneOf_congr (D : Desc) (a b : St) (j : Nat) (h : a.buf = b.buf) : laneOf D a j = laneOf D b j := by
  unfold laneOf getCmdState
  split <;> simp [getB, h]

theorem getCmdState_eq (D : Desc) (s : St) (i : Nat) : ∃ c, getCmdState D s i = (s.chk c, laneOf D s i) := by
  unfold laneOf getCmdState
  split
  · exact ⟨true, rfl⟩
  · exact ⟨_, rfl⟩

theorem laneOf_setCmdState (D : Desc) (s : St) (i j v : Nat) (hv : v < 4) (hi : i / 4 < D.cmdCap) (hl : i / 4 < s.buf.length)
    (hj : disabledByIndex D.groups j = false) :
    laneOf D (setCmdState D s i v) j = if i = j then v else laneOf D s j := by
  rw [laneOf_enabled D _ j hj, laneOf_enabled D s j hj]
  unfold setCmdState
  rw [getB_setB_cmd D s (i / 4) (j / 4) _ hi hl]
  by_cases hq : i / 4 = j / 4
  · -- in the same byte, equal lanes are equal indices
    rw [if_pos hq, laneGet_laneSet, Nat.mod_eq_of_lt hv, hq]
    have : i % 4 = j % 4 ↔ i = j := by omega
    simp only [this]
  · rw [if_neg hq, if_neg (fun h => hq (by rw [h]))]

def nameOf (D : Desc) (j : Nat) : List Byte := ((cmdByIndex D.groups j).getD default).name

theorem setCmdState_chk_buf (D : Desc) (s : St) (c : Bool) (i v : Nat) :
    (setCmdState D (s.chk c) i v).buf = (setCmdState D s i v).buf := by
  unfold setCmdState setB getB
  simp only [chk_ctl]
  split <;> simp

theorem updateLane_disabled (D : Desc) (s : St) (h : disabledByIndex D.groups s.index = true) : updateLane D s = s := by
  unfold updateLane
  simp [getCmdState, h]

theorem updateLane_buf (D : Desc) (s : St) :
    let old := laneOf D s s.index
    let new := stepMatch old (nameOf D s.index) s.length s.currentChar
    ((updateLane D s).buf = s.buf ∧ new = old) ∨
    (old ≠ 0 ∧ new < 4 ∧ (updateLane D s).buf = (setCmdState D s s.index new).buf) := by
  obtain ⟨c, hc⟩ := getCmdState_eq D s s.index
  unfold updateLane stepMatch nameOf
  simp only [hc, chk_ctl, bne_iff_ne, ne_eq, ite_not, beq_iff_eq, apply_ite St.buf, setCmdState_chk_buf, ite_self]
  generalize laneOf D s s.index = old
  by_cases h0 : old = 0
  · left; simp [h0]
  · -- the leaves below: too long; the last character; still a proper prefix; the wrong character
    simp only [h0, if_false, not_false_eq_true, true_and]
    split
    · exact Or.inr ⟨by decide, rfl⟩
    · split
      · split
        · exact Or.inr ⟨by decide, rfl⟩
        · exact Or.inl ⟨rfl, rfl⟩
      · exact Or.inr ⟨by decide, rfl⟩

/-- **One `update_command` step refines `stepMatch`**, for every table entry `j`, enabled or not. -/
theorem updateLane_laneOf (D : Desc) (s : St) (j : Nat)
    (hi : s.index / 4 < D.cmdCap) (hl : s.index / 4 < s.buf.length) :
    laneOf D (updateLane D s) j =
      if j = s.index then stepMatch (laneOf D s s.index) (nameOf D s.index) s.length s.currentChar
      else laneOf D s j := by
  rcases updateLane_buf D s with ⟨hb, hnew⟩ | ⟨h0, hv, hb⟩
  · rw [laneOf_congr D _ s j hb]
    split
    · rename_i hjs; rw [hnew, hjs]
    · rfl
  · rw [laneOf_congr D _ _ j hb]
    cases hj : disabledByIndex D.groups j
    · rw [laneOf_setCmdState D s s.index j _ hv hi hl hj]
      simp only [eq_comm]
    · -- a disabled entry reads 0 before and after, and is not the one under the cursor
      have : j ≠ s.index := fun e => h0 (by rw [← e]; exact laneOf_disabled D s j hj)
      rw [if_neg this, laneOf_disabled D _ j hj, laneOf_disabled D s j hj]

theorem updateLane_lanes (D : Desc) (s : St) (j : Nat)
    (hen : disabledByIndex D.groups s.index = false) (hj : disabledByIndex D.groups j = false)
    (hi : s.index / 4 < D.cmdCap) (hl : s.index / 4 < s.buf.length) (hb : getB D s .cmd (s.index / 4) < 256) :
    laneOf D (updateLane D s) j =
      if j = s.index then
        stepMatch (laneOf D s s.index) ((cmdByIndex D.groups s.index).getD default).name s.length s.currentChar
      else laneOf D s j :=
  -- `hen`, `hj` and `hb` are not needed
  updateLane_laneOf D s j hi hl

theorem updateAdvance_flag (D : Desc) (s : St) :
    (updateAdvance D s).implicitWriteFlag = true → s.implicitWriteFlag = true := by
  unfold updateAdvance
  simp only [prepareSearchCommand, apply_ite St.implicitWriteFlag]
  (repeat' split) <;> simp

theorem updateAdvance_lanes (D : Desc) (s : St) (j : Nat) : laneOf D (updateAdvance D s) j = laneOf D s j :=
  laneOf_congr D _ s j (by simp)

end Cat
