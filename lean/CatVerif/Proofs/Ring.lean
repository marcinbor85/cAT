/-
  The ring of unsolicited events refines a bounded FIFO queue (C13), for any capacity ≥ 1 and any
  number of laps around the ring.
-/
import CatVerif.Model.Fsm
import CatVerif.Proofs.Ite
namespace Cat
open St

/-- the increment with wrap-around of the ring indices -/
theorem wrap_succ (i c : Nat) (h : i < c) : (if i + 1 ≥ c then 0 else i + 1) = (i + 1) % c := by
  split
  · rw [show i + 1 = c by omega, Nat.mod_self]
  · rw [Nat.mod_eq_of_lt (by omega)]

theorem mod_ne_of_lt_add {x y c : Nat} (h1 : x < y) (h2 : y < x + c) : x % c ≠ y % c := by
  intro h
  have := Nat.sub_mod_eq_zero_of_mod_eq h.symm
  rw [Nat.mod_eq_of_lt (by omega)] at this
  omega

structure RingInv (D : Desc) (s : St) : Prop where
  cap_pos : 0 < D.cap
  len : s.ring.length = D.cap
  head_lt : s.rhead < D.cap
  count_le : s.rcount ≤ D.cap
  tail_eq : s.rtail = (s.rhead + s.rcount) % D.cap

theorem ringItems_length (D : Desc) (s : St) : (ringItems D s).length = s.rcount := by simp [ringItems]

theorem init_ringInv (D : Desc) (b u : List Byte) (m : List (List Byte)) (h : 0 < D.cap) : RingInv D (init D b u m) :=
  ⟨h, by simp [init], by simpa [init] using h, by simp [init], by simp [init]⟩

theorem push_full (D : Desc) (s : St) (c : Nat) (t : CmdType) (h : s.rcount = D.cap) :
    pushUnsolicited D s c t = (s, Gen.CAT_STATUS_ERROR_BUFFER_FULL) := by
  simp [pushUnsolicited, Gen.is_unsolicited_buffer_full, h]

/-- an accepted push appends at the end of the abstract queue, wherever the indices stand -/
theorem push_ok (D : Desc) (s : St) (c : Nat) (t : CmdType) (hi : RingInv D s) (h : s.rcount < D.cap) :
    (pushUnsolicited D s c t).2 = Gen.CAT_STATUS_OK ∧
    RingInv D (pushUnsolicited D s c t).1 ∧
    ringItems D (pushUnsolicited D s c t).1 = ringItems D s ++ [(c, t)] ∧
    (pushUnsolicited D s c t).1.oob = s.oob := by
  obtain ⟨hc, hl, hh, hcl, ht⟩ := hi
  have hne : ¬ (s.rcount : Int) = (D.cap : Int) := by omega
  have htl : s.rtail < D.cap := by rw [ht]; exact Nat.mod_lt _ hc
  have e : pushUnsolicited D s c t =
      ({ s with ring := s.ring.set s.rtail (c, t), rtail := (s.rtail + 1) % D.cap, rcount := s.rcount + 1 },
        Gen.CAT_STATUS_OK) := by
    simp [pushUnsolicited, Gen.is_unsolicited_buffer_full, hne, St.chk, htl, wrap_succ s.rtail D.cap htl]
  rw [e]
  refine ⟨rfl, ⟨hc, by simpa using hl, hh, Nat.succ_le_of_lt h, ?_⟩, ?_, rfl⟩
  · show (s.rtail + 1) % D.cap = (s.rhead + (s.rcount + 1)) % D.cap
    rw [ht, Nat.mod_add_mod, Nat.add_assoc]
  · show (List.range (s.rcount + 1)).map _ = _
    rw [List.range_succ, List.map_append, List.map_singleton, ← ht]
    congr 1
    · -- the cells of the waiting events are not the one written
      refine List.map_congr_left fun k hk => ?_
      have hk := List.mem_range.1 hk
      have : (s.rhead + k) % D.cap ≠ s.rtail := ht ▸ mod_ne_of_lt_add (by omega) (by omega)
      simp [List.getD, Ne.symm this]
    · simp [List.getD, hl, htl]

/-- on a non-empty queue, the head cell holds the oldest event and popping removes exactly it -/
theorem pop_ok (D : Desc) (s : St) (hi : RingInv D s) (h : 0 < s.rcount) :
    ringItems D s = ringFront s :: ringItems D (ringPop D s) ∧ RingInv D (ringPop D s) ∧
    (ringPop D s).oob = s.oob := by
  obtain ⟨hc, hl, hh, hcl, ht⟩ := hi
  have e : ringPop D s = { s with rhead := (s.rhead + 1) % D.cap, rcount := s.rcount - 1 } := by
    simp [ringPop, St.chk, hh, wrap_succ s.rhead D.cap hh]
  rw [e]
  obtain ⟨n, hn⟩ : ∃ n, s.rcount = n + 1 := ⟨s.rcount - 1, by omega⟩
  refine ⟨?_, ⟨hc, hl, Nat.mod_lt _ hc, by show s.rcount - 1 ≤ D.cap; omega, ?_⟩, rfl⟩
  · show (List.range s.rcount).map _ = _ :: (List.range (s.rcount - 1)).map _
    rw [hn, Nat.add_sub_cancel, List.range_succ_eq_map, List.map_cons, List.map_map, Nat.add_zero, Nat.mod_eq_of_lt hh]
    refine congrArg (ringFront s :: ·) (List.map_congr_left fun k _ => ?_)
    show s.ring.getD ((s.rhead + (k + 1)) % D.cap) _ = s.ring.getD (((s.rhead + 1) % D.cap + k) % D.cap) _
    rw [Nat.mod_add_mod, Nat.add_assoc, Nat.add_comm 1 k]
  · show s.rtail = ((s.rhead + 1) % D.cap + (s.rcount - 1)) % D.cap
    rw [ht, Nat.mod_add_mod, hn, Nat.add_sub_cancel, Nat.add_assoc, Nat.add_comm 1 n]

/-- What the idle unsolicited machine does: nothing while no event waits; otherwise the oldest event leaves the ring,
becomes the event in progress (its taking is logged), and the answer to a READ or TEST event is begun. -/
theorem checkUnsolicitedBuffers_cases {motive : St → Prop} (D : Desc) (s : St) (empty : s.rcount = 0 → motive s)
    (pop : 0 < s.rcount → ∀ p, p = ({ ringPop D s with ucmd := some (ringFront s).1, ucmdType := (ringFront s).2 } : St).emit
        (.pop (ringFront s).1 (ringFront s).2) →
      motive (startFormatRead D p .uns) ∧ motive (startFormatTest D p .uns) ∧ motive p) :
    motive (checkUnsolicitedBuffers D s) := by
  unfold checkUnsolicitedBuffers
  split
  · rename_i h; exact empty (by simpa [Gen.is_unsolicited_buffer_empty] using h)
  · rename_i h
    obtain ⟨a, b, c⟩ := pop (by simp [Gen.is_unsolicited_buffer_empty] at h; omega) _ rfl
    exact rel_ite (fun _ => a) fun _ => rel_ite (fun _ => b) fun _ => c

/-- `cat_is_unsolicited_buffer_full` predicts the outcome of a trigger -/
theorem full_predicts (D : Desc) (s : St) (c : Nat) (t : CmdType) (hi : RingInv D s) :
    (Gen.is_unsolicited_buffer_full s.rcount D.cap = true ↔ (pushUnsolicited D s c t).2 = Gen.CAT_STATUS_ERROR_BUFFER_FULL) ∧
    (Gen.is_unsolicited_buffer_full s.rcount D.cap = false ↔ (pushUnsolicited D s c t).2 = Gen.CAT_STATUS_OK) := by
  have hcl := hi.count_le
  by_cases h : s.rcount = D.cap
  · rw [push_full D s c t h]
    simp [Gen.is_unsolicited_buffer_full, h, Gen.CAT_STATUS_ERROR_BUFFER_FULL, Gen.CAT_STATUS_OK]
  · rw [(push_ok D s c t hi (by omega)).1]
    have hne : ¬ (s.rcount : Int) = (D.cap : Int) := by omega
    simp [Gen.is_unsolicited_buffer_full, hne, Gen.CAT_STATUS_ERROR_BUFFER_FULL, Gen.CAT_STATUS_OK]

end Cat
