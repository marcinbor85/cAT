/-
  Frame lemmas for the mid-level helpers of the model: the event ring, `hold_exit`, the nested API
  calls of callbacks, the match-state lanes, the variable stores and the variable formatters.
-/
import CatVerif.Proofs.Frame
namespace Cat
open St

@[simp] theorem pushUnsolicited_frame (D : Desc) (s : St) (c : Nat) (t : CmdType) :
    SameC' s (pushUnsolicited D s c t).1 ∧ SameU' s (pushUnsolicited D s c t).1 ∧ SameH s (pushUnsolicited D s c t).1
    ∧ SamePos s (pushUnsolicited D s c t).1 ∧ SameMem s (pushUnsolicited D s c t).1 ∧ SameBuf s (pushUnsolicited D s c t).1
    ∧ SameLog s (pushUnsolicited D s c t).1 := by
  unfold pushUnsolicited
  split <;> simp
@[simp] theorem pushUnsolicited_ub (D : Desc) (s : St) (c : Nat) (t : CmdType) : (pushUnsolicited D s c t).1.ub = s.ub := by
  unfold pushUnsolicited; split <;> simp

@[simp] theorem holdExit_frame (s : St) (st : Int) :
    SameC' s (holdExit s st).1 ∧ SameU' s (holdExit s st).1 ∧ SameR s (holdExit s st).1 ∧ (holdExit s st).1.holdFlag = s.holdFlag
    ∧ SamePos s (holdExit s st).1 ∧ SameMem s (holdExit s st).1 ∧ SameBuf s (holdExit s st).1 ∧ SameLog s (holdExit s st).1 := by
  unfold holdExit
  split <;> simp
@[simp] theorem holdExit_faults (s : St) (st : Int) : (holdExit s st).1.oob = s.oob ∧ (holdExit s st).1.ub = s.ub := by
  unfold holdExit; split <;> simp

theorem pushUnsolicited_quiet (c : Cls) (D : Desc) (s : St) (k : Nat) (t : CmdType) : Quiet c s (pushUnsolicited D s k t).1 := by
  simp
theorem holdExit_quiet (c : Cls) (s : St) (st : Int) : Quiet c s (holdExit s st).1 := by simp

/-- What a callback can change is what is missing here: the ring (triggers), the hold-exit status, variable storage
(pokes, in place) and — read/test handlers only (`canEdit`) — the acting machine's own region and cursor. -/
@[simp] theorem applyNested_frame (D : Desc) (f : Fsm) (canEdit : Bool) (acts : List Nested) : ∀ s : St,
    SameC' s (applyNested D f canEdit s acts) ∧ SameU' s (applyNested D f canEdit s acts)
    ∧ (applyNested D f canEdit s acts).holdFlag = s.holdFlag ∧ LenE s (applyNested D f canEdit s acts)
    ∧ (applyNested D f canEdit s acts).ub = s.ub ∧ LogsOnly [.mutex, .nested] s (applyNested D f canEdit s acts) := by
  induction acts with
  | nil => intro s; simp [applyNested]
  | cons a r ih =>
    intro s
    cases a with
    | poke slot off bs =>
      simp only [applyNested]
      split
      · have l := poke_lenE s slot off bs ‹_›
        simp +contextual [ih]
        simpa using l
      · exact ih s
    | _ => simp only [applyNested, withMutex] <;> (repeat' split) <;> simp +contextual [ih, cls]

@[simp] theorem applyNested_other (D : Desc) (canEdit : Bool) (acts : List Nested) : ∀ s : St,
    (applyNested D .cmd canEdit s acts).uposition = s.uposition ∧ KeepsUR D s (applyNested D .cmd canEdit s acts) ∧
    (applyNested D .uns canEdit s acts).position = s.position ∧ KeepsCR D s (applyNested D .uns canEdit s acts) := by
  induction acts with
  | nil => intro s; simp [applyNested]
  | cons a r ih =>
    intro s
    cases a <;> simp only [applyNested, withMutex] <;> (repeat' split) <;> simp [ih]

@[simp] theorem applyNested_noedit (D : Desc) (f : Fsm) (acts : List Nested) : ∀ s : St,
    SamePos s (applyNested D f false s acts) ∧ SameBuf s (applyNested D f false s acts) := by
  induction acts with
  | nil => intro s; simp [applyNested]
  | cons a r ih =>
    intro s
    cases a <;> simp only [applyNested, withMutex, Bool.false_and, Bool.false_eq_true, if_false] <;> (repeat' split) <;> simp [ih]

theorem applyNested_noApi (D : Desc) (f : Fsm) (e : Bool) (acts : List Nested) (h : noApi acts = true) : ∀ s : St,
    SameLog s (applyNested D f e s acts) ∧ SameR s (applyNested D f e s acts) ∧
    (applyNested D f e s acts).holdExitStatus = s.holdExitStatus := by
  induction acts with
  | nil => intro s; simp [applyNested]
  | cons a r ih =>
    intro s
    cases a <;> simp [noApi] at h <;> simp only [applyNested] <;> (repeat' split) <;> simp [ih h]

theorem applyNested_quiet (c : Cls) (D : Desc) (f : Fsm) (e : Bool) (acts : List Nested) (h : ApiFree c acts) (s : St) :
    tr c (applyNested D f e s acts).log = tr c s.log := by
  rcases h with ⟨h1, h2⟩ | h
  · simp [h1, h2]
  · rw [(applyNested_noApi D f e acts h s).1]

@[simp] theorem getCmdState_frame (D : Desc) (s : St) (i : Nat) :
    SameCtl s (getCmdState D s i).1 ∧ SameMem s (getCmdState D s i).1 ∧ SameBuf s (getCmdState D s i).1
    ∧ SameLog s (getCmdState D s i).1 ∧ (getCmdState D s i).1.ub = s.ub := by
  unfold getCmdState; split <;> simp

@[simp] theorem setCmdState_frame (D : Desc) (s : St) (i v : Nat) :
    SameCtl s (setCmdState D s i v) ∧ SameMem s (setCmdState D s i v) ∧ SameLog s (setCmdState D s i v) ∧
    (setCmdState D s i v).ub = s.ub ∧ KeepsUR D s (setCmdState D s i v) := by
  unfold setCmdState; simp

/-- `SameC'` without `writeSize` -/
@[simp] abbrev SameCWS (s s' : St) : Prop :=
  s'.index = s.index ∧ s'.partialCntr = s.partialCntr ∧ s'.length = s.length ∧
  s'.cmd = s.cmd ∧ s'.cmdType = s.cmdType ∧
  s'.currentChar = s.currentChar ∧ s'.state = s.state ∧ s'.crFlag = s.crFlag ∧
  s'.writeSrc = s.writeSrc ∧ s'.writeState = s.writeState ∧
  s'.writeStateAfter = s.writeStateAfter ∧ s'.implicitWriteFlag = s.implicitWriteFlag

/-- parsing an argument into its variable: the cursor, `writeSize`, the bytes of storage (in place), `memWrite` events, `oob` -/
@[simp] abbrev ParseOnly (s s' : St) : Prop :=
  SameCWS s s' ∧ KeepsU s s' ∧ SameBuf s s' ∧ SameH s s' ∧ SameR s s' ∧ LenE s s' ∧ s'.ub = s.ub ∧ LogsOnly [.mem] s s'

/-- a variable store: the same without the cursor -/
@[simp] abbrev StoreOnly (s s' : St) : Prop := ParseOnly s s' ∧ s'.position = s.position

@[simp] theorem storeInt_frame (s : St) (v : VarD) (val : Nat) : StoreOnly s (storeInt s v val) := by
  unfold storeInt; simp +contextual

@[simp] theorem validateIntRange_frame (s : St) (v : VarD) (neg : Bool) (mag : Nat) :
    StoreOnly s (validateIntRange s v neg mag).1 := by
  unfold validateIntRange
  simp only
  repeat' (with_reducible refine rel_ite (R := fun r : St × Bool => StoreOnly s r.1) (fun _ => ?_) (fun _ => ?_))
  all_goals simp +contextual

@[simp] theorem validateUIntRange_frame (s : St) (v : VarD) (val : Nat) :
    StoreOnly s (validateUIntRange s v val).1 := by
  unfold validateUIntRange
  simp only
  repeat' (with_reducible refine rel_ite (R := fun r : St × Bool => StoreOnly s r.1) (fun _ => ?_) (fun _ => ?_))
  all_goals simp +contextual

@[simp] theorem loadUInt_frame (s : St) (v : VarD) :
    SameCtl s (loadUInt s v).1 ∧ SameMem s (loadUInt s v).1 ∧ SameBuf s (loadUInt s v).1 ∧ SameLog s (loadUInt s v).1 ∧
    (loadUInt s v).1.ub = s.ub := by
  unfold loadUInt; simp

@[simp] theorem formatIntDecimal_frame (D : Desc) (s : St) (v : VarD) :
    PrintsOnly D s (fun f => (formatIntDecimal D s f v).1) := by
  unfold formatIntDecimal; split <;> simp

@[simp] theorem formatUIntDecimal_frame (D : Desc) (s : St) (v : VarD) :
    PrintsOnly D s (fun f => (formatUIntDecimal D s f v).1) := by
  unfold formatUIntDecimal; split <;> simp

@[simp] theorem formatNumHexadecimal_frame (D : Desc) (s : St) (v : VarD) :
    PrintsOnly D s (fun f => (formatNumHexadecimal D s f v).1) := by
  unfold formatNumHexadecimal; split <;> simp

@[simp] theorem formatBufferHexadecimal_frame (D : Desc) (s : St) (v : VarD) :
    PrintsOnly D s (fun f => (formatBufferHexadecimal D s f v).1) := by
  unfold formatBufferHexadecimal; simp

@[simp] theorem formatBufferString_frame (D : Desc) (s : St) (v : VarD) :
    PrintsOnly D s (fun f => (formatBufferString D s f v).1) := by
  unfold formatBufferString; simp

@[simp] theorem formatVar_frame (D : Desc) (s : St) (v : VarD) : PrintsOnly D s (fun f => (formatVar D s f v).1) := by
  unfold formatVar; cases v.type <;> simp

@[simp] theorem formatInfoType_frame (D : Desc) (s : St) (v : VarD) : PrintsOnly D s (fun f => (formatInfoType D s f v).1) := by
  refine ⟨fun f => ?_, ?_, ?_, ?_, ?_⟩ <;> simp only [formatInfoType] <;> split <;> simp

end Cat
