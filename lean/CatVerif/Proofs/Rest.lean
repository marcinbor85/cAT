/-
  Liveness and the line accounting composed (C01 + C15): a run of more than `mu` calls of `cat_service`
  that lets the library finish (`TermIn`) ends with both machines at rest, and rest reached behind a
  complete line means that every line begun has been answered, once.
-/
import CatVerif.Proofs.Live
import CatVerif.Proofs.MidLine
namespace Cat
open St

theorem commandService_cc_noread (D : Desc) (s : St) (i : SvcIn) (hi : i.rd = none) :
    (commandService D s i).1.currentChar = s.currentChar := by
  by_cases hr : Reading s.state
  · rw [read_refused D s i hr hi]; rfl
  · exact commandService_cc D s i hr

theorem serviceBody_cc_noread (D : Desc) (s : St) (i : SvcIn) (hi : i.rd = none) (hu : i.hu.ret ≠ 4) :
    (serviceBody D s i).1.currentChar = s.currentChar :=
  (commandService_cc_noread D _ i hi).trans (unsolicitedEventsService_lineSame D s i hu).2.2.1

theorem service_cc_noread (D : Desc) (s : St) (i : SvcIn) (hi : i.rd = none) (hu : i.hu.ret ≠ 4) :
    (service D s i).1.currentChar = s.currentChar :=
  withMutex_inv (P := fun a => a.currentChar = s.currentChar) (Q := fun a => a.currentChar = s.currentChar) D s i.lock i.unlock _
    (fun _ h => h) (fun _ _ h => h) (fun _ _ h => h) (fun a h => (serviceBody_cc_noread D a i hi hu).trans h) rfl

theorem runSvc_cc (D : Desc) : ∀ (is : List SvcIn) (s : St), (∀ i ∈ is, TermIn i) →
    (runSvc D s is).1.currentChar = s.currentChar := by
  intro is
  induction is with
  | nil => intro s _; rfl
  | cons i r ih =>
    intro s ht
    simp only [runSvc]
    rw [ih _ (fun j hj => ht j (by simp [hj]))]
    exact service_cc_noread D _ i (ht i (by simp)).rd (ht i (by simp)).hu.2.2

/-- **Every line is answered, once.**  From any world satisfying the line invariants and owing no
answer: after a history `ops` whose last consumed byte is the LF of a line and which does not end
in a hold, any run of more than `mu` calls without input, with accepting output and final handler
answers ends in IDLE with both machines at rest, and over the whole history the result codes
started equal the lines begun. -/
theorem lines_answered (w : World) (ops : List Op) (hok : ∀ op ∈ ops, OpOk op)
    (hinv : LineInv w.s) (hmid : MidLine w.s) (howe : owes w.s = 0)
    (hlive : Live (runOps w ops).1.D (runOps w ops).1.s) (hlf : (runOps w ops).1.s.currentChar = 10)
    (is : List SvcIn) (ht : ∀ i ∈ is, TermIn i) (hlen : mu (runOps w ops).1.D (runOps w ops).1.s < is.length) :
    let r := runOps w (ops ++ is.map .service)
    r.1.s.state = .idle ∧ r.1.s.ustate = .idle ∧ r.1.s.rcount = 0 ∧
    acksIn r.2 = linesBegun w (ops ++ is.map .service) := by
  have hok' : ∀ op ∈ ops ++ is.map .service, OpOk op := by
    intro op hop
    rcases List.mem_append.1 hop with h | h
    · exact hok op h
    · obtain ⟨i, hi, rfl⟩ := List.mem_map.1 h
      exact (ht i hi).hu.2.2
  have e : (runOps w (ops ++ is.map .service)).1 =
      ⟨(runOps w ops).1.D, (runSvc (runOps w ops).1.D (runOps w ops).1.s is).1⟩ := by
    rw [runOps_append]
    exact (runOps_services _ is _).2
  have q := (runSvc_live _ is _ ht hlive hlen).2
  have cc := runSvc_cc (runOps w ops).1.D is (runOps w ops).1.s ht
  have r := answered_at_rest w (ops ++ is.map .service) hok' hinv hmid howe (by rw [e]; exact q.2.2)
    (by rw [e, cc]; exact hlf)
  simp only
  rw [e] at r ⊢
  exact ⟨r.1, q.1, q.2.1, r.2⟩

end Cat
