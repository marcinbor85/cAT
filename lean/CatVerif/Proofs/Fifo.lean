/-
  Trace-level FIFO (C13): over any history, the events taken from the ring, followed by the events
  still waiting, are exactly the accepted triggers in acceptance order.
-/
import CatVerif.Proofs.RingInvP
namespace Cat
open St

/-- triggers accepted from inside callbacks, as logged (`nestedTrig c t OK`) -/
def accIn (l : List Ev) : List (Nat × CmdType) :=
  l.filterMap (fun e => match e with
    | .nestedTrig c t r => if r = Gen.CAT_STATUS_OK then some (c, cmdTypeOfInt t) else none
    | _ => none)

/-- events taken from the ring, as logged -/
def popsIn (l : List Ev) : List (Nat × CmdType) :=
  l.filterMap (fun e => match e with
    | .pop c t => some (c, t)
    | _ => none)

@[simp] theorem accIn_append (a b : List Ev) : accIn (a ++ b) = accIn a ++ accIn b := by simp [accIn]
@[simp] theorem popsIn_append (a b : List Ev) : popsIn (a ++ b) = popsIn a ++ popsIn b := by simp [popsIn]

theorem accIn_nestedTrig (c : Nat) (t r : Int) :
    accIn [.nestedTrig c t r] = if r = Gen.CAT_STATUS_OK then [(c, cmdTypeOfInt t)] else [] := by
  by_cases h : r = Gen.CAT_STATUS_OK <;> simp [accIn, h]

theorem accIn_tr (l : List Ev) : accIn l = accIn (tr .nested l) :=
  filterMap_tr .nested _ (fun e h => by cases e <;> first | rfl | simp [cls] at h) l

theorem popsIn_tr (l : List Ev) : popsIn l = popsIn (tr .pop l) :=
  filterMap_tr .pop _ (fun e h => by cases e <;> first | rfl | simp [cls] at h) l

def SameAcc (s s' : St) : Prop :=
  SameR s s' ∧ popsIn s'.log = popsIn s.log ∧ accIn s'.log = accIn s.log

theorem SameAcc.of_sameQ {s s' : St} (h : SameQ s s') : SameAcc s s' :=
  ⟨h.1, by rw [popsIn_tr, h.2.1, ← popsIn_tr], by rw [accIn_tr, h.2.2, ← accIn_tr]⟩

theorem SameAcc.refl (s : St) : SameAcc s s := ⟨by simp, rfl, rfl⟩

theorem ringItems_congr {D : Desc} {s s' : St} (h : SameR s s') : ringItems D s' = ringItems D s := by
  simp only [SameR] at h
  simp [ringItems, h.1, h.2.2.1, h.2.2.2]

/-- the queue law relative to a base list: `base ++ accepted = taken ++ waiting` -/
structure QInv (D : Desc) (base : List (Nat × CmdType)) (s : St) : Prop where
  ring : RingInv D s
  eq : base ++ accIn s.log = popsIn s.log ++ ringItems D s

theorem QInv.congr {D : Desc} {base : List (Nat × CmdType)} {s s' : St} (h : SameAcc s s') (q : QInv D base s) :
    QInv D base s' :=
  ⟨q.ring.congr h.1, by rw [h.2.1, h.2.2, ringItems_congr h.1]; exact q.eq⟩

theorem SameAcc.mutex (s : St) (e : Ev) (h : cls e = .mutex) : SameAcc s (s.emit e) :=
  .of_sameQ (by simp [SameQ, St.emit, h])

theorem SameAcc.emit_exit (s : St) (st r : Int) : SameAcc s (s.emit (.nestedExit st r)) :=
  ⟨by simp, by simp [St.emit, popsIn], by simp [St.emit, accIn]⟩

/-- A push keeps the queue law if the event is counted as accepted exactly when the push answers OK; `u` is the state
after whatever follows the push without touching the ring or the two event classes (an unlock). -/
theorem push_q (D : Desc) (base : List (Nat × CmdType)) (s u : St) (c : Nat) (t : CmdType) (q : QInv D base s)
    (hu : SameAcc (pushUnsolicited D s c t).1 u) :
    RingInv D u ∧
    base ++ (accIn u.log ++ (if (pushUnsolicited D s c t).2 = Gen.CAT_STATUS_OK then [(c, t)] else [])) =
      popsIn u.log ++ ringItems D u := by
  refine ⟨(pushUnsolicited_ring D s c t q.ring).congr hu.1, ?_⟩
  have hlog : (pushUnsolicited D s c t).1.log = s.log := by simp
  rw [hu.2.1, hu.2.2, ringItems_congr hu.1, hlog]
  by_cases hf : s.rcount = D.cap
  · rw [push_full D s c t hf]
    simpa [Gen.CAT_STATUS_ERROR_BUFFER_FULL, Gen.CAT_STATUS_OK] using q.eq
  · obtain ⟨r, _, items, _⟩ := push_ok D s c t q.ring (by have := q.ring.count_le; omega)
    rw [r, items, if_pos rfl, ← List.append_assoc, ← List.append_assoc, q.eq]

/-- a trigger made from inside a callback: push, (unlock,) then log the result; `accIn` reads the
logged result the way `push_q` counts it -/
theorem nestedPush_q (D : Desc) (base : List (Nat × CmdType)) (s u : St) (c : Nat) (t : Int) (q : QInv D base s)
    (hu : SameAcc (pushUnsolicited D s c (cmdTypeOfInt t)).1 u) :
    QInv D base (u.emit (.nestedTrig c t (pushUnsolicited D s c (cmdTypeOfInt t)).2)) := by
  obtain ⟨ri, e⟩ := push_q D base s u c (cmdTypeOfInt t) q hu
  refine ⟨ri.congr (by simp), ?_⟩
  rw [ringItems_congr (s := u) (by simp), emit_log, accIn_append, popsIn_append, accIn_nestedTrig, e]
  simp [popsIn]

theorem applyNested_q (D : Desc) (base : List (Nat × CmdType)) (f : Fsm) (e : Bool) (acts : List Nested) :
    ∀ s : St, QInv D base s → QInv D base (applyNested D f e s acts) := by
  induction acts with
  | nil => exact fun s h => h
  | cons a r ih =>
    intro s q
    cases a with
    | trigger c t =>
      -- the logged result of the nested call is that of the push, lock or no lock
      simp only [applyNested]
      refine ih _ (withMutex_cases (motive := fun r => QInv D base (r.1.emit (.nestedTrig c t r.2))) D s 0 0 _ ?_
        (fun h => absurd rfl h) fun _ => ?_)
      · exact nestedPush_q D base s _ c t q (.refl _)
      · simp only [ne_eq, not_true_eq_false, if_false]
        exact nestedPush_q D base _ _ c t (q.congr (.mutex _ _ rfl)) (.mutex _ _ rfl)
    | holdExit st =>
      simp only [applyNested]
      exact ih _ ((withMutex_inv (P := QInv D base) D s 0 0 _ (fun _ h => h) (fun _ _ h => h.congr (.mutex _ _ rfl))
        (fun _ _ h => h.congr (.mutex _ _ rfl)) (fun _ h => h.congr (.of_sameQ (by simp [SameQ]))) q).congr
        (.emit_exit _ _ _))
    | _ => simp only [applyNested]; exact ih _ (rel_ite (fun _ => QInv.congr (s := s) ⟨by simp, by simp, by simp⟩ q) fun _ => q)

theorem q_cbKept (D : Desc) (base : List (Nat × CmdType)) (L : List (List Nested)) : CbKept D L (QInv D base) :=
  ⟨fun h q => q.congr (.of_sameQ h), fun f e a acts _ q => applyNested_q D base f e acts a q⟩

/-- **One step of the command machine keeps the queue law** (its callbacks may push). -/
theorem commandService_q (D : Desc) (base : List (Nat × CmdType)) (s : St) (i : SvcIn) (q : QInv D base s) :
    QInv D base (commandService D s i).1 :=
  commandService_kept (q_cbKept D base _) s q

theorem checkUnsolicitedBuffers_q (D : Desc) (base : List (Nat × CmdType)) (s : St) (q : QInv D base s) :
    QInv D base (checkUnsolicitedBuffers D s) :=
  checkUnsolicitedBuffers_cases D s (fun _ => q) fun hpos p hp => by
    obtain ⟨hitems, hring, _⟩ := pop_ok D s q.ring hpos
    have qp : QInv D base p := by
      subst hp
      refine ⟨hring.congr (by simp), ?_⟩
      rw [ringItems_congr (s := ringPop D s) (by simp), emit_log, accIn_append, popsIn_append]
      simpa [show accIn [Ev.pop (ringFront s).1 (ringFront s).2] = [] from rfl,
        show popsIn [Ev.pop (ringFront s).1 (ringFront s).2] = [ringFront s] from rfl, hitems] using q.eq
    exact ⟨qp.congr (.of_sameQ (by simp [SameQ])), qp.congr (.of_sameQ (by simp [SameQ])), qp⟩

theorem unsolicitedEventsService_q (D : Desc) (base : List (Nat × CmdType)) (s : St) (i : SvcIn) (q : QInv D base s) :
    QInv D base (unsolicitedEventsService D s i).1 :=
  unsolicitedEventsService_kept (q_cbKept D base _) s (fun _ => checkUnsolicitedBuffers_q D base s q) q

/-- the event a top-level trigger call has queued, judged by its return code -/
def accOp (op : Op) (ret : Int) : List (Nat × CmdType) :=
  match op with
  | .trigger c t _ _ => if ret = Gen.CAT_STATUS_OK then [(c, cmdTypeOfInt t)] else []
  | _ => []

/-- the unlock of a trigger call succeeds (otherwise the call reports an error although the event
has been queued, C16_unlock_failure_harmless) -/
def OpQ : Op → Prop
  | .trigger _ _ _ ul => ul = 0
  | _ => True

theorem ringItems_cap (D D' : Desc) (s : St) (h : D'.cap = D.cap) : ringItems D' s = ringItems D s := by
  simp [ringItems, h]

theorem QInv.cap {D D' : Desc} {base : List (Nat × CmdType)} {s : St} (h : D'.cap = D.cap) (q : QInv D base s) : QInv D' base s :=
  ⟨q.ring.cap h, by rw [ringItems_cap D D' s h]; exact q.eq⟩

/-- a top-level trigger call (unlock succeeding): the bracket logs nothing of the two classes; the
push appends iff the call answers OK -/
theorem catTrigger_q (D : Desc) (base : List (Nat × CmdType)) (z : St) (c : Nat) (t : Int) (lk : Int) (q0 : QInv D base z) :
    base ++ (accIn (catTrigger D z c t lk 0).1.log ++
        (if (catTrigger D z c t lk 0).2 = Gen.CAT_STATUS_OK then [(c, cmdTypeOfInt t)] else [])) =
      popsIn (catTrigger D z c t lk 0).1.log ++ ringItems D (catTrigger D z c t lk 0).1 := by
  have q1 : QInv D base (z.emit (.lock lk)) := q0.congr (.mutex _ _ rfl)
  refine withMutex_cases (motive := fun r => base ++ (accIn r.1.log ++ (if r.2 = Gen.CAT_STATUS_OK then [(c, cmdTypeOfInt t)] else [])) =
      popsIn r.1.log ++ ringItems D r.1) D z lk 0 _ ?_ (fun _ => ?_) (fun _ => ?_)
  · exact (push_q D base z _ c _ q0 (.refl _)).2
  · simpa [Gen.CAT_STATUS_ERROR_MUTEX_LOCK, Gen.CAT_STATUS_OK] using q1.eq
  · simp only [ne_eq, not_true_eq_false, if_false]
    exact (push_q D base _ _ c _ q1 (.mutex _ _ rfl)).2

/-- **One API call**: what was waiting before, plus what this call accepted (from callbacks, then
by the call itself), equals what this call took from the ring plus what is waiting now. -/
theorem apply_q (w : World) (op : Op) (hq : OpQ op) (h : RingInv w.D w.s) :
    RingInv (apply w op).1.D (apply w op).1.s ∧
    ringItems w.D w.s ++ (accIn (apply w op).1.s.log ++ accOp op (apply w op).2) =
      popsIn (apply w op).1.s.log ++ ringItems (apply w op).1.D (apply w op).1.s := by
  refine ⟨apply_ring w op h, ?_⟩
  have q0 : QInv w.D (ringItems w.D w.s) ({ w.s with log := [] } : St) :=
    ⟨h.congr (by simp), by simp [accIn, popsIn]; exact (ringItems_congr (by simp)).symm⟩
  by_cases ht : ∃ c t lk ul, op = .trigger c t lk ul
  · obtain ⟨c, t, lk, ul, rfl⟩ := ht
    obtain rfl : ul = 0 := hq
    exact catTrigger_q w.D _ _ c t lk q0
  · -- every other call keeps the queue law of its own log
    have q := apply_keeps (I := fun a => QInv a.D (ringItems w.D w.s) a.s) w op
      (lock := fun _ _ q => q.congr (.mutex _ _ rfl)) (unlock := fun _ _ q => q.congr (.mutex _ _ rfl))
      (svc := fun i _ a q => commandService_q a.D _ _ i (unsolicitedEventsService_q a.D _ a.s i q))
      (push := fun c t lk ul e => absurd ⟨c, t, lk, ul, e⟩ ht)
      (exit := fun _ _ q => q.congr (.of_sameQ (by simp [SameQ])))
      (flag := fun _ _ de q => q.cap de.cap)
      (poke := fun a _ _ _ _ q => QInv.congr (s := a.s) ⟨by simp, rfl, rfl⟩ q) q0
    have e : accOp op (apply w op).2 = [] := by
      cases op <;> first | rfl | exact absurd ⟨_, _, _, _, rfl⟩ ht
    rw [e, List.append_nil]
    exact q.eq

/-- events accepted during a history, in acceptance order: per call, those triggered from inside
callbacks (logged with result OK), then the call itself if it is a trigger that answered OK -/
def histAccepted : World → List Op → List (Nat × CmdType)
  | _, [] => []
  | w, op :: r => (accIn (apply w op).1.s.log ++ accOp op (apply w op).2) ++ histAccepted (apply w op).1 r

/-- events taken from the ring (handed to the unsolicited machine) during a history, in order -/
def histTaken : World → List Op → List (Nat × CmdType)
  | _, [] => []
  | w, op :: r => popsIn (apply w op).1.s.log ++ histTaken (apply w op).1 r

/-- **FIFO, exactly once, over any history**: what was waiting at the start followed by everything
accepted since equals everything taken since followed by what is still waiting. -/
theorem runOps_fifo : ∀ (ops : List Op) (w : World), (∀ op ∈ ops, OpQ op) → RingInv w.D w.s →
    ringItems w.D w.s ++ histAccepted w ops =
      histTaken w ops ++ ringItems (runOps w ops).1.D (runOps w ops).1.s := by
  intro ops
  induction ops with
  | nil => intro w _ _; simp [histAccepted, histTaken, runOps]
  | cons op r ih =>
    intro w hq h
    have a := apply_q w op (hq op (by simp)) h
    have b := ih (apply w op).1 (fun o ho => hq o (by simp [ho])) a.1
    simp only [histAccepted, histTaken, runOps]
    rw [← List.append_assoc, a.2, List.append_assoc, b, List.append_assoc]

end Cat
