/-
  Abstract semantics of threads calling a lock-protected API (C17).  A thread runs a list of
  operations; an operation is `acquire; step₁; …; stepₙ; release` where the steps are the
  individual (non-atomic) accesses of the operation's body to the shared state.  The lock is a
  single non-recursive mutex.  The scheduler picks any thread at any time.
-/
namespace Cat.Lock

variable {σ ω : Type}

/-- the body of one API call as a sequence of accesses to the shared state -/
abbrev Body (σ : Type) := List (σ → σ)

def runBody (b : Body σ) (s : σ) : σ := b.foldl (fun acc f => f acc) s

structure Thread (σ ω : Type) where
  todo : List ω                     -- API calls not yet started
  cur : Option (ω × Body σ)         -- the call in progress (lock held) and its remaining steps

structure Cfg (σ ω : Type) where
  sh : σ                            -- the shared object
  threads : List (Thread σ ω)
  done : List ω                     -- ghost: completed calls, in order of acquisition
  part : Body σ                     -- ghost: steps of the call in progress already executed

/-- one scheduling decision: thread `i` takes its next step if it can (otherwise nothing happens:
a thread blocked on the lock just waits) -/
def step (sem : ω → Body σ) (c : Cfg σ ω) (i : Nat) : Cfg σ ω :=
  match c.threads[i]? with
  | none => c
  | some t =>
    match t.cur with
    | none =>
      -- wants to acquire: possible only if nobody holds the lock
      if c.threads.all (fun u => u.cur.isNone) then
        match t.todo with
        | [] => c
        | o :: rest => { c with threads := c.threads.set i { todo := rest, cur := some (o, sem o) }, part := [] }
      else c
    | some (o, []) =>
      -- release
      { c with threads := c.threads.set i { t with cur := none }, done := c.done ++ [o], part := [] }
    | some (o, f :: fs) =>
      { c with sh := f c.sh, threads := c.threads.set i { t with cur := some (o, fs) }, part := c.part ++ [f] }

def run (sem : ω → Body σ) (c : Cfg σ ω) (sched : List Nat) : Cfg σ ω := sched.foldl (step sem) c

/-- at most one thread is inside an operation -/
def Excl (c : Cfg σ ω) : Prop :=
  ∀ (i j : Nat) (ti tj : Thread σ ω), c.threads[i]? = some ti → c.threads[j]? = some tj → ti.cur.isSome → tj.cur.isSome → i = j

/-- the shared state is what the completed operations, run one after the other in acquisition
order, followed by the executed part of the operation in progress, produce -/
def Lin (sem : ω → Body σ) (s0 : σ) (c : Cfg σ ω) : Prop :=
  c.sh = runBody c.part (c.done.foldl (fun s o => runBody (sem o) s) s0) ∧
  ((∀ t ∈ c.threads, t.cur.isNone) → c.part = []) ∧
  (∀ t ∈ c.threads, ∀ o rem, t.cur = some (o, rem) → c.part ++ rem = sem o)

theorem excl_set {c c' : Cfg σ ω} {i : Nat} {t' : Thread σ ω} (h : Excl c) (hts : c'.threads = c.threads.set i t')
    (hother : t'.cur.isSome → ∀ k u, k ≠ i → c.threads[k]? = some u → u.cur.isSome → False) : Excl c' := by
  intro a b ta tb ha hb hca hcb
  rw [hts, List.getElem?_set] at ha hb
  by_cases hai : i = a <;> by_cases hbi : i = b
  · omega
  · rw [if_pos hai] at ha; rw [if_neg hbi] at hb
    split at ha
    · cases ha; exact (hother hca b tb (Ne.symm hbi) hb hcb).elim
    · cases ha
  · rw [if_neg hai] at ha; rw [if_pos hbi] at hb
    split at hb
    · cases hb; exact (hother hcb a ta (Ne.symm hai) ha hca).elim
    · cases hb
  · rw [if_neg hai] at ha; rw [if_neg hbi] at hb
    exact h a b ta tb ha hb hca hcb

theorem step_excl (sem : ω → Body σ) (c : Cfg σ ω) (i : Nat) (h : Excl c) : Excl (step sem c i) := by
  unfold step
  split
  · exact h
  · rename_i t hti
    -- while `t` is inside a call no other thread is
    have others : t.cur.isSome → ∀ k u, k ≠ i → c.threads[k]? = some u → u.cur.isSome → False :=
      fun ht k u hk hu hs => hk (h k i u t hu hti hs ht)
    split
    · split
      · rename_i hall
        simp only [List.all_eq_true] at hall
        split
        · exact h
        · refine excl_set h rfl fun _ k u _ hu hs => ?_
          have := hall u (List.mem_of_getElem? hu)
          rw [Option.isNone_iff_eq_none] at this
          rw [this] at hs; cases hs
      · exact h
    · exact excl_set h rfl fun hs => by cases hs
    · rename_i hc
      exact excl_set h rfl fun _ => others (by rw [hc]; rfl)

theorem runBody_append (a b : Body σ) (s : σ) : runBody (a ++ b) s = runBody b (runBody a s) := by
  simp [runBody, List.foldl_append]

theorem mem_set_outside {ts : List (Thread σ ω)} {i : Nat} {t' u : Thread σ ω}
    (hout : ∀ k v, k ≠ i → ts[k]? = some v → v.cur = none) (hu : u ∈ ts.set i t') : u = t' ∨ u.cur = none := by
  obtain ⟨k, hk⟩ := List.mem_iff_getElem?.1 hu
  rw [List.getElem?_set] at hk
  split at hk
  · split at hk
    · cases hk; exact Or.inl rfl
    · cases hk
  · exact Or.inr (hout k u (fun h => ‹¬ i = k› h.symm) hk)

theorem step_lin (sem : ω → Body σ) (s0 : σ) (c : Cfg σ ω) (i : Nat) (hx : Excl c) (h : Lin sem s0 c) : Lin sem s0 (step sem c i) := by
  obtain ⟨h1, h2, h3⟩ := h
  unfold step
  split
  · exact ⟨h1, h2, h3⟩
  · rename_i t hti
    have hlt : i < c.threads.length := (List.getElem?_eq_some_iff.1 hti).1
    -- while thread `i` is inside a call, the threads at the other indices are outside
    have others : t.cur.isSome → ∀ k u, k ≠ i → c.threads[k]? = some u → u.cur = none := by
      intro ht k u hk hu
      cases hcu : u.cur with
      | none => rfl
      | some x => exact absurd (hx k i u t hu hti (by rw [hcu]; rfl) ht) hk
    split
    · split
      · rename_i hall
        simp only [List.all_eq_true] at hall
        split
        · exact ⟨h1, h2, h3⟩
        · refine ⟨by rw [h1, h2 hall], fun _ => rfl, fun u hu o' rem hcu => ?_⟩
          rcases mem_set_outside (fun k v _ hv => Option.isNone_iff_eq_none.1 (hall v (List.mem_of_getElem? hv))) hu with rfl | hn
          · cases hcu; rfl
          · rw [hn] at hcu; cases hcu
      · exact ⟨h1, h2, h3⟩
    · -- release: the executed part is the whole body
      rename_i o hc
      have hpo := h3 t (List.mem_of_getElem? hti) o [] hc
      rw [List.append_nil] at hpo
      refine ⟨by rw [h1, hpo, List.foldl_append]; rfl, fun _ => rfl, fun u hu o' rem hcu => ?_⟩
      rcases mem_set_outside (others (by rw [hc]; rfl)) hu with rfl | hn
      · cases hcu
      · rw [hn] at hcu; cases hcu
    · -- one more access of the body
      rename_i o f fs hc
      have hpo := h3 t (List.mem_of_getElem? hti) o (f :: fs) hc
      refine ⟨by rw [h1, runBody_append]; rfl, fun hall => ?_, fun u hu o' rem hcu => ?_⟩
      · cases hall _ (List.mem_iff_getElem?.2 ⟨i, by rw [List.getElem?_set_self hlt]⟩)
      · rcases mem_set_outside (others (by rw [hc]; rfl)) hu with rfl | hn
        · cases hcu; rw [List.append_assoc]; exact hpo
        · rw [hn] at hcu; cases hcu

/-- **Mutual exclusion** along every schedule -/
theorem mutual_exclusion (sem : ω → Body σ) (c : Cfg σ ω) (sched : List Nat) (h : Excl c) : Excl (run sem c sched) := by
  unfold run
  induction sched generalizing c with
  | nil => simpa using h
  | cons i r ih => simp only [List.foldl_cons]; exact ih (step sem c i) (step_excl sem c i h)

/-- **Linearizability**: along every schedule the shared object is in the state that the operations
completed so far, executed one at a time in the order in which they acquired the lock (followed by
the executed prefix of the one in progress), produce from the initial state. -/
theorem linearizable (sem : ω → Body σ) (s0 : σ) (c : Cfg σ ω) (sched : List Nat) (hx : Excl c) (h : Lin sem s0 c) : Lin sem s0 (run sem c sched) := by
  unfold run
  induction sched generalizing c with
  | nil => simpa using h
  | cons i r ih =>
    simp only [List.foldl_cons]
    exact ih (step sem c i) (step_excl sem c i hx) (step_lin sem s0 c i hx h)

def start (s0 : σ) (progs : List (List ω)) : Cfg σ ω :=
  { sh := s0, threads := progs.map (fun p => { todo := p, cur := none }), done := [], part := [] }

theorem start_ok (sem : ω → Body σ) (s0 : σ) (progs : List (List ω)) : Excl (start s0 progs : Cfg σ ω) ∧ Lin sem s0 (start s0 progs) := by
  constructor
  · unfold Excl
    intro i j ti tj hi _ hci _
    simp [start, List.getElem?_map] at hi
    obtain ⟨p, _, rfl⟩ := hi
    simp at hci
  · refine ⟨by simp [start, runBody], fun _ => rfl, ?_⟩
    intro t ht o rem hc
    simp [start] at ht
    obtain ⟨p, _, rfl⟩ := ht
    simp at hc

/-- **Invariants of the sequential API carry over to threads**: if a predicate on the shared object
holds initially and is preserved by every complete operation body, then at every point of every
interleaving at which no thread is inside an operation, it holds. -/
theorem sequential_invariant_transfers (sem : ω → Body σ) (P : σ → Prop) (s0 : σ) (progs : List (List ω)) (sched : List Nat)
    (h0 : P s0) (hop : ∀ o s, P s → P (runBody (sem o) s))
    (hq : ∀ t ∈ (run sem (start s0 progs) sched).threads, t.cur.isNone) :
    P (run sem (start s0 progs) sched).sh := by
  have ⟨hx, hl⟩ := start_ok sem s0 progs
  have := linearizable sem s0 (start s0 progs) sched hx hl
  obtain ⟨h1, h2, _⟩ := this
  rw [h1, h2 hq]
  simp only [runBody, List.foldl_nil]
  generalize (run sem (start s0 progs) sched).done = d
  have gen : ∀ (d : List ω) (s : σ), P s → P (d.foldl (fun s o => runBody (sem o) s) s) := by
    intro d
    induction d with
    | nil => intro s hs; simpa using hs
    | cons b r ih => intro s hs; simp only [List.foldl_cons]; exact ih _ (hop b s hs)
  exact gen d s0 h0

end Cat.Lock
