/-
  What the printing primitive leaves in a machine's region (C06: read and test handlers are handed the automatically
  formatted text, its length and the capacity).  `printN_txtF`: a successful `print_nstring_to_buf` appends — the text so
  far, the printed bytes, a NUL, the cursor on the NUL; `TxtF.cstr_eq`: a NUL-free text under the cursor is the handler's C
  string and `position` its `strlen`.  The region is read through `getB`, so one statement serves both machines.
-/
import CatVerif.Proofs.Units
import CatVerif.Proofs.NoOob
namespace Cat
open St

def PreF (D : Desc) (s : St) (f : Fsm) (t : List Byte) : Prop :=
  s.pos f = t.length ∧ t.length ≤ D.capOf f ∧ (∀ i, i < t.length → getB D s f i = t.getD i 0)

/-- the region of machine `f` starts with the text `t`, NUL-terminated, and the cursor stands on that NUL -/
def TxtF (D : Desc) (s : St) (f : Fsm) (t : List Byte) : Prop :=
  s.pos f = t.length ∧ t.length < D.capOf f ∧ (∀ i, i < t.length → getB D s f i = t.getD i 0) ∧ getB D s f t.length = 0

theorem TxtF.pre {D : Desc} {s : St} {f : Fsm} {t : List Byte} (h : TxtF D s f t) : PreF D s f t := ⟨h.1, Nat.le_of_lt h.2.1, h.2.2.1⟩

/-- **the printing primitive appends, for either machine** -/
theorem printN_txtF {D : Desc} {s : St} {f : Fsm} {t : List Byte} (x : List Byte) (hb : BufLen D s f) (h : PreF D s f t)
    (ok : (printN D s f x).2 = true) :
    TxtF D (printN D s f x).1 f (t ++ x) ∧ BufLen D (printN D s f x).1 f := by
  obtain ⟨hp, hc, hpre⟩ := h
  have hlt : s.pos f + x.length < D.capOf f := by
    have := (printN_ok D s f x).1.1 ok; omega
  unfold printN
  simp only [show s.pos f ≤ D.capOf f by omega, decide_true, St.chkUb, if_true,
    if_neg (show ¬ x.length ≥ D.capOf f - s.pos f by omega)]
  generalize hs1 : writeB D s f (s.pos f) x = s1
  have g2 : ∀ n, getB D (s1.setPos f (s.pos f + x.length)) f n = getB D s1 f n := fun n => getB_congr D f n (by simp)
  refine ⟨⟨?_, ?_, ?_, ?_⟩, hb.lengths (by cases f <;> simp [← hs1]) (by cases f <;> simp [← hs1])⟩
  · rw [setB_pos, setPos_pos, hp, List.length_append]
  · simp only [List.length_append]; omega
  · intro i hi
    simp only [List.length_append] at hi
    rw [getB_setB_ne D _ f _ 0 i (by omega), g2, ← hs1]
    by_cases h1 : i < t.length
    · rw [getB_writeB_out D f x s _ i (Or.inl (by omega)), hpre i h1]
      simp [List.getD, List.getElem?_append_left h1]
    · have := getB_writeB_in D f x s (s.pos f) (by omega) hb (i - t.length) (by omega)
      rw [show s.pos f + (i - t.length) = i by omega] at this
      rw [this]
      simp [List.getD, List.getElem?_append_right (show t.length ≤ i by omega)]
  · rw [List.length_append, ← hp]
    exact getB_setB_zero D _ f _ hlt

theorem list_split_nul (l t : List Byte) (hl : t.length < l.length) (hpre : ∀ i, i < t.length → l.getD i 0 = t.getD i 0)
    (hz : l.getD t.length 0 = 0) : l = t ++ 0 :: l.drop (t.length + 1) := by
  have ht : l.take t.length = t := by
    apply List.ext_getElem (by simp; omega)
    intro i h1 h2
    simpa [List.getD, List.getElem?_eq_getElem h2, List.getElem?_eq_getElem (show i < l.length by omega)] using hpre i h2
  have h0 : l[t.length] = 0 := by simpa [List.getD, List.getElem?_eq_getElem hl] using hz
  exact (List.take_append_drop t.length l).symm.trans (by rw [ht, List.drop_eq_getElem_cons hl, h0])

theorem strlenOf_append_nul (t r : List Byte) (h : ∀ b ∈ t, b ≠ 0) : strlenOf (t ++ 0 :: r) = t.length := by
  induction t with
  | nil => simp [strlenOf]
  | cons b t ih =>
    have hb : b ≠ 0 := h b (by simp)
    simp [strlenOf, hb, ih (fun x hx => h x (by simp [hx])), Nat.add_comm]

/-- a NUL-free text under the cursor is the handler's C string, and the position its `strlen`, for either machine -/
theorem TxtF.cstr_eq {D : Desc} {s : St} {f : Fsm} {t : List Byte} (hb : BufLen D s f) (h : TxtF D s f t) (hn : ∀ b ∈ t, b ≠ 0) :
    cstr D s f = (t, true) ∧ s.pos f = t.length := by
  obtain ⟨hp, hc, hpre, hz⟩ := h
  have hl := region_length hb
  have hreg := list_split_nul (region D s f 0) t (by rw [hl]; exact hc)
    (fun i hi => by rw [← getB_region D s f i (by omega)]; exact hpre i hi)
    (by rw [← getB_region D s f _ hc]; exact hz)
  unfold cstr
  simp only []
  rw [hreg, strlenOf_append_nul t _ hn]
  refine ⟨?_, hp⟩
  simp

theorem printAll_txtF {D : Desc} {f : Fsm} : ∀ (xs : List (List Byte)) (s : St) (t : List Byte), BufLen D s f → PreF D s f t →
    xs ≠ [] → t.length + xs.flatten.length < D.capOf f →
    ∃ s1, printAll D s f xs = (s1, true) ∧ TxtF D s1 f (t ++ xs.flatten) ∧ BufLen D s1 f ∧
      s1.cmdOf f = s.cmdOf f ∧ s1.crFlag = s.crFlag := by
  intro xs
  induction xs with
  | nil => intro s t _ _ h; exact absurd rfl h
  | cons x r ih =>
    intro s t hb hp _ hfit
    simp only [List.flatten_cons, List.length_append] at hfit
    have ok1 : (printN D s f x).2 = true := (printN_ok D s f x).1.2 (by rw [hp.1]; omega)
    have t1 := printN_txtF x hb hp ok1
    have k : (printN D s f x).1.cmdOf f = s.cmdOf f ∧ (printN D s f x).1.crFlag = s.crFlag := by
      cases f <;> simp [St.cmdOf]
    simp only [printAll]
    rcases hr : printN D s f x with ⟨s1, o1⟩
    rw [hr] at ok1 t1 k
    simp only at ok1 t1 k
    subst ok1
    simp only [if_true]
    cases r with
    | nil => exact ⟨s1, rfl, by simpa using t1.1, t1.2, k⟩
    | cons y r' =>
      obtain ⟨s2, e, tx, b2, c2, r2⟩ := ih s1 (t ++ x) t1.2 t1.1.pre (by simp) (by simp only [List.length_append]; omega)
      exact ⟨s2, e, by simpa [List.append_assoc] using tx, b2, c2.trans k.1, r2.trans k.2⟩

end Cat
