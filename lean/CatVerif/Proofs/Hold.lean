/-
  The hold flag (C14): `HoldCpl` is kept by a step of the command machine, by the body of `cat_service`, by every API call.
-/
import CatVerif.Proofs.Inv
namespace Cat
open St

theorem readCmdChar_hf (s : St) (i : SvcIn) : (readCmdChar s i).1.holdFlag = s.holdFlag := by simp
theorem startPrintCmdList_hf (D : Desc) (s : St) : (startPrintCmdList D s).holdFlag = s.holdFlag := by simp

/-- the coupling between the hold flag and the HOLD state (Appendix B.3) -/
def HoldCpl (s : St) : Prop := s.holdFlag = true ↔ s.state = .hold

theorem HoldCpl.flag {s : St} (h : HoldCpl s) (hs : s.state ≠ .hold) : s.holdFlag = false := by
  cases hh : s.holdFlag
  · rfl
  · exact absurd (h.1 hh) hs

theorem doCall_cmd_holdCpl (D : Desc) (s : St) (c : Call) (h : HoldCpl s) (hs : s.state ≠ .hold) : HoldCpl (doCall D .cmd s c) := by
  have hf := h.flag hs
  unfold HoldCpl
  cases c with
  | enableHold => simp [doCall, enableHoldState]
  | startPrintCmdList => simp [doCall, startPrintCmdList]; split <;> simp [hf]
  | startFormatRead =>
    have := startFormatRead_cmd_state D s
    simp [doCall, hf]; simp at this; rcases this with g | g | g <;> simp [g]
  | startFormatTest =>
    have := startFormatTest_cmd_state D s
    simp [doCall, hf]; simp at this; rcases this with g | g | g <;> simp [g]
  | holdExit ok => simp [doCall, hf, holdExit]; exact hs
  | _ => simp [doCall, hf]

theorem doCall_cmd_holdFlag (D : Desc) (s : St) (c : Call) (hc : c ≠ .enableHold) : (doCall D .cmd s c).holdFlag = s.holdFlag := by
  cases c <;> simp [doCall] at hc ⊢

theorem callsOf_hold (k : HKind) (n : Spec.Next) : Spec.callsOf k n = [.enableHold] ∨ .enableHold ∉ Spec.callsOf k n := by
  cases n <;> cases k <;> simp [Spec.callsOf] <;> rename_i ok <;> cases ok <;> simp

theorem loopStep_holdCpl (D : Desc) (k : HKind) (s : St) (ans : HAnswer) (h : HoldCpl s) (hs : s.state ≠ .hold) :
    HoldCpl (loopStep D .cmd k s ans) := by
  simp only [loopStep]
  rw [loopTable_eq]
  generalize ht : applyNested D .cmd k.edits _ ans.acts = t
  have h' : HoldCpl t := by subst ht; simpa [HoldCpl] using h
  have hs' : t.state ≠ .hold := by subst ht; simpa using hs
  rcases callsOf_hold k (Spec.respSpec k .cmd ans.ret) with e | e
  · rw [e]; simp [doCalls, doCall, enableHoldState, HoldCpl]
  · -- without `enable_hold_state` the flag stays false, so by the coupling HOLD is not entered
    refine (doCalls_rel (R := fun a b => HoldCpl a ∧ a.holdFlag = false → HoldCpl b ∧ b.holdFlag = false)
      (fun _ x => x) (fun _ _ _ x y z => y (x z)) D .cmd _ (fun a c hc ⟨x, y⟩ => ?_) t ⟨h', h'.flag hs'⟩).1
    have ne : a.state ≠ .hold := fun e => by have := x.2 e; simp [y] at this
    exact ⟨doCall_cmd_holdCpl D a c x ne, by rw [doCall_cmd_holdFlag D a c (fun e' => e (e' ▸ hc)), y]⟩

theorem loopStep_holdFlag (D : Desc) (k : HKind) (s : St) (ans : HAnswer) (h4 : ans.ret ≠ 4) :
    (loopStep D .cmd k s ans).holdFlag = s.holdFlag := by
  have := doCalls_rel (R := fun a b => b.holdFlag = a.holdFlag) (fun _ => rfl) (fun _ _ _ x y => y.trans x) D .cmd
    (loopTable k ans.ret .cmd) (fun a c hc => doCall_cmd_holdFlag D a c (fun e => h4 ((enableHold_mem_loopTable k ans.ret .cmd).1 (e ▸ hc))))
    (applyNested D .cmd k.edits ((s.chkUb s.cmd.isSome).emit (handlerEv D .cmd k (s.chkUb s.cmd.isSome) ans.ret)) ans.acts)
  simpa [loopStep, St.cmdOf] using this

theorem commandService_holdFlag (D : Desc) (s : St) (i : SvcIn) (hk : loopKind s.state = none) (hs : s.state ≠ .hold) :
    (commandService D s i).1.holdFlag = s.holdFlag := by
  unfold commandService
  split <;> simp_all [loopKind]

theorem commandService_holdCpl (D : Desc) (s : St) (i : SvcIn) (h : HoldCpl s) : HoldCpl (commandService D s i).1 := by
  cases hk : loopKind s.state with
  | some k =>
    rw [commandService_loop i hk]
    exact loopStep_holdCpl D k s i.hc h (by intro e; simp [e, loopKind] at hk)
  | none =>
  by_cases hs : s.state = .hold
  · -- HOLD is left only with the flag cleared
    simp only [commandService, hs, HoldCpl, processHoldState]
    split
    · simpa [HoldCpl, hs] using h
    · simp only; split <;> simp
  · -- elsewhere the flag is untouched, hence false, and HOLD could only be entered by `reset_state` finding it set
    have hf := h.flag hs
    unfold HoldCpl
    rw [commandService_holdFlag D s i hk hs, hf]
    refine ⟨fun x => by simp at x, fun e => ?_⟩
    rcases hold_pred D s i e with g | g | g
    · exact absurd g hs
    · simp [commandService, g, resetState, hf] at e
    · simp [hk] at g

theorem commandService_nohold (D : Desc) (s : St) (i : SvcIn) (h4 : i.hc.ret ≠ 4) (h : HoldCpl s) (hs : s.state ≠ .hold) :
    (commandService D s i).1.state ≠ .hold := by
  suffices hf : (commandService D s i).1.holdFlag = false by
    intro e; have := (commandService_holdCpl D s i h).2 e; simp [hf] at this
  rw [← h.flag hs]
  cases hk : loopKind s.state with
  | some k => rw [commandService_loop i hk]; exact loopStep_holdFlag D k s i.hc h4
  | none => exact commandService_holdFlag D s i hk hs

theorem serviceBody_holdCpl (D : Desc) (s : St) (i : SvcIn) (hu : i.hu.ret ≠ 4) (h : HoldCpl s) : HoldCpl (serviceBody D s i).1 := by
  unfold serviceBody
  simp only
  apply commandService_holdCpl
  have k := unsolicitedEventsService_keepsC D s i hu
  unfold HoldCpl at *
  simpa only [k] using h

theorem apply_holdCpl (w : World) (op : Op) (hop : OpOk op) (h : HoldCpl w.s) : HoldCpl (apply w op).1.s :=
  apply_keeps (I := fun a => HoldCpl a.s) w op (lock := fun _ _ h => h) (unlock := fun _ _ h => h)
    (svc := fun i e a h => serviceBody_holdCpl a.D a.s i (by subst e; exact hop) h)
    (push := fun _ _ _ _ _ _ h => by simpa [HoldCpl] using h) (exit := fun _ _ h => by simpa [HoldCpl] using h)
    (flag := fun _ _ _ h => h) (poke := fun _ _ _ _ _ h => h) h

/-- **The coupling holds along every history from `cat_init`.** -/
theorem runOps_holdCpl (D : Desc) (buf ubuf : List Byte) (mem : List (List Byte)) (ops : List Op) (hok : ∀ op ∈ ops, OpOk op) :
    HoldCpl (runOps ⟨D, init D buf ubuf mem⟩ ops).1.s :=
  runOps_inv (I := fun w => HoldCpl w.s) apply_holdCpl ops ⟨D, init D buf ubuf mem⟩ hok (by simp [HoldCpl, init])

end Cat
