/-
  Output units along histories (C11).  `TraceF`: everything machine `f` has had accepted by `io->write` is a sequence of
  whole units followed by the part already sent of the unit in progress.  One step of `f` keeps that (`machineStep_unit`,
  from `ioWrite_acct`; `OobF` of `Proofs/NoOob.lean` gives `FlushInvF` at every unit start), a step of the other machine
  does not disturb it.  `Acct` is what such an invariant needs to survive a history: for either machine here, for the
  merged stream in `Proofs/UnitsM.lean`.
-/
import CatVerif.Proofs.Units
import CatVerif.Proofs.NoOobHist
namespace Cat
open St

def IsNl (x : List Byte) : Prop := x = [10] ∨ x = [13, 10]

/-- a unit: text between line breaks, or bare (a line of the command list) -/
def UnitShape (u : List Byte) : Prop :=
  ∃ a b p, IsNl a ∧ IsNl b ∧ (∀ x ∈ p, x ≠ 0) ∧ (u = a ++ p ++ b ∨ u = p)

theorem nlBytes_isNl : ∀ off, off ≤ 1 → IsNl (nlBytes off)
  | 0, _ => .inr rfl
  | 1, _ => .inl rfl

theorem nlStr_isNl (s : St) : IsNl (nlStr s) := nlStr_eq s ▸ nlBytes_isNl _ (nlOff_le s)

theorem takeWhile_ne (l : List Byte) : ∀ x ∈ l.takeWhile (· ≠ 0), x ≠ 0 :=
  fun x hx => by simpa using List.all_eq_true.1 List.all_takeWhile x hx

theorem takeWhile_lt_of_mem (l : List Byte) (h : 0 ∈ l) : (l.takeWhile (· ≠ 0)).length < l.length :=
  have hp := List.takeWhile_prefix (fun x : Byte => decide (x ≠ 0)) (l := l)
  Nat.lt_of_le_of_ne hp.length_le (fun e => takeWhile_ne l 0 (by rw [hp.eq_of_length e]; exact h) rfl)

theorem hasNul_term {D : Desc} {s : St} {f : Fsm} (hb : BufLen D s f) (h : HasNul D s f 0) :
    (payload D s f).length < (region D s f 0).length := by
  obtain ⟨n, _, h2, h3⟩ := h
  have hl := region_length hb
  rw [getB_region D s f n h2] at h3
  have hn : n < (region D s f 0).length := by omega
  exact takeWhile_lt_of_mem _ (List.mem_iff_getElem.2 ⟨n, hn, by simpa [List.getD, List.getElem?_eq_getElem hn] using h3⟩)

theorem unit_framed (D : Desc) (s : St) (f : Fsm) {a : List Byte} (ha : IsNl a) : UnitShape (a ++ payload D s f ++ nlStr s) :=
  ⟨a, nlStr s, _, ha, nlStr_isNl s, takeWhile_ne _, .inl rfl⟩

theorem unit_raw (D : Desc) (s : St) (f : Fsm) : UnitShape (payload D s f) :=
  ⟨[10], [10], _, .inl rfl, .inl rfl, takeWhile_ne _, .inr rfl⟩

def Whole (x : List Byte) : Prop := ∃ us : List (List Byte), (∀ u ∈ us, UnitShape u) ∧ x = us.flatten

theorem Whole.snoc {x u : List Byte} (h : Whole x) (hu : UnitShape u) : Whole (x ++ u) := by
  obtain ⟨us, hs, rfl⟩ := h
  exact ⟨us ++ [u], by simpa [or_imp, forall_and] using ⟨hs, hu⟩, by simp⟩

/-- the accounting invariant: `acc` = everything accepted so far -/
structure TraceF (D : Desc) (acc : List Byte) (s : St) (f : Fsm) : Prop where
  opened : OpenF s f → ∃ x a, Whole x ∧ IsNl a ∧ acc ++ remF D s f = x ++ a ++ payload D s f
  closed : ¬ OpenF s f → Whole (acc ++ remF D s f)

/-- a unit that waits for the output is whole but for the closing line break, which is chosen later -/
def PendF (D : Desc) (s : St) (f : Fsm) : Prop :=
  s.waiting f → (OpenF s f ∧ ∃ a, IsNl a ∧ remF D s f = a ++ payload D s f) ∨ (¬ OpenF s f ∧ UnitShape (remF D s f))

theorem UnitSameF.rem {D D' : Desc} {f : Fsm} {s s' : St} (h : UnitSameF D D' f s s') : remF D' s' f = remF D s f :=
  remF_congr h.ph h.reg h.wst h.wsrc h.pos

theorem UnitSameF.open {D D' : Desc} {f : Fsm} {s s' : St} (h : UnitSameF D D' f s s') : OpenF s' f ↔ OpenF s f := by
  simp only [OpenF, h.ph, h.wst]

theorem UnitSameF.ok {D D' : Desc} {f : Fsm} {s s' : St} (h : UnitSameF D D' f s s') (fo : FlushOkF D s f) : FlushOkF D' s' f :=
  fun hf => h.inv (fo (by rw [← h.ph]; exact hf))

theorem UnitSameF.trace {D D' : Desc} {f : Fsm} {s s' : St} {acc : List Byte} (h : UnitSameF D D' f s s') (t : TraceF D acc s f) :
    TraceF D' acc s' f :=
  ⟨fun o => by rw [h.rem, h.payload]; exact t.opened (h.open.1 o), fun o => by rw [h.rem]; exact t.closed (fun x => o (h.open.2 x))⟩

theorem UnitSameF.pend {D D' : Desc} {f : Fsm} {s s' : St} (h : UnitSameF D D' f s s') (hw : s'.waiting f → s.waiting f)
    (p : PendF D s f) : PendF D' s' f := by
  intro w
  rw [h.rem, h.payload, h.open]
  exact p (hw w)

theorem PendF.start {D : Desc} {acc : List Byte} {s : St} {f : Fsm} (p : PendF D s f) (hw : s.waiting f) (ha : Whole acc) :
    TraceF D acc s f := by
  rcases p hw with ⟨o, a, hn, r⟩ | ⟨o, sh⟩
  · exact ⟨fun _ => ⟨acc, a, ha, hn, by rw [r, List.append_assoc]⟩, fun n => absurd o n⟩
  · exact ⟨fun op => absurd op o, fun _ => ha.snoc sh⟩

theorem traceF_idle {D : Desc} {acc : List Byte} {s : St} {f : Fsm} (h : s.ph f ≠ .flush) : TraceF D acc s f ↔ Whole acc := by
  have r : acc ++ remF D s f = acc := by simp [remF, h]
  exact ⟨fun t => r ▸ t.closed (fun o => h o.1), fun w => ⟨fun o => absurd o.1 h, fun _ => r.symm ▸ w⟩⟩

theorem entry_unit {D : Desc} {s : St} {f : Fsm} (hb : BufLen D s f) (o : OobF D s f) (hw : s.waiting f) :
    FlushInvF D s f ∧ PendF D s f := by
  have e := o.wait hw
  have hph : s.ph f = .flush := waiting_ph hw
  rcases e.src with ⟨h0, off, hle, hsrc⟩ | ⟨h2, hsrc⟩
  · exact ⟨⟨hasNul_term hb (o.first hph h0), fun h => by rw [hsrc] at h; exact WSrc.noConfusion h, Or.inl ⟨h0, off, hsrc⟩⟩,
      fun _ => Or.inl ⟨⟨hph, by omega⟩, nlBytes off, nlBytes_isNl off hle, by simp [remF, srcBytes, hph, h0, hsrc, e.pos]⟩⟩
  · have hn := o.main hph hsrc
    rw [e.pos] at hn
    have r : remF D s f = payload D s f := by simp [remF, srcBytes, hph, h2, hsrc, e.pos]
    exact ⟨⟨hasNul_term hb hn, fun _ => by rw [e.pos]; exact Nat.zero_le _, Or.inr (Or.inr h2)⟩,
      fun _ => Or.inr ⟨fun op => by have := op.2; omega, r ▸ unit_raw D s f⟩⟩

theorem machineStep_idle (D : Desc) (s : St) (f : Fsm) (i : SvcIn) (h : ¬ s.writing f) :
    outF f (machineStep D s f i).1.log = outF f s.log := by
  cases f
  · exact outF_quiet (commandService_no_write D s i h)
  · exact outF_quiet (unsolicitedEventsService_no_write D s i h)

theorem machineStep_starts (D : Desc) (s : St) (f : Fsm) (i : SvcIn) (h : (machineStep D s f i).1.writing f) :
    s.writing f ∨ (s.waiting f ∧ ¬ s.writing f.other) := by
  cases f
  · exact cmd_flushWrite D s i h
  · exact uns_flushWrite D s i h

/-- what a step does to the unit accounting of machine `f`, in a form that holds of `f`'s own step and survives a step of
the other machine before or after it.  `quiet`, `ok`, `trace` account for `f`'s own stream.  The other four are what the
merged stream (`Proofs/UnitsM.lean`) needs to know of a machine while the other one sends: it starts writing only out of
waiting (`starts`), does not wait again in the call that ends its unit (`ends`), leaves a waiting unit as it is (`waits`),
and a unit it begins in the call is pending, not counted (`pend`). -/
structure UnitStep (D : Desc) (f : Fsm) (s s' : St) : Prop where
  quiet : ¬ s.writing f → outF f s'.log = outF f s.log
  starts : s'.writing f → s.writing f ∨ s.waiting f
  ends : s.writing f → ¬ s'.waiting f
  waits : s.waiting f → UnitSameF D D f s s'
  pend : s.ph f ≠ .flush → PendF D s' f
  ok : FlushOkF D s' f
  trace : ∀ acc, TraceF D (acc ++ outF f s.log) s f → TraceF D (acc ++ outF f s'.log) s' f

theorem machineStep_unit {D : Desc} (s : St) (f : Fsm) (i : SvcIn) (fo : FlushOkF D s f)
    (hb' : BufLen D (machineStep D s f i).1 f) (o' : OobF D (machineStep D s f i).1 f) :
    UnitStep D f s (machineStep D s f i).1 := by
  by_cases hw : s.writing f
  · have hph : s.ph f = .flush := (ph_flush_iff s f).2 (Or.inr hw)
    rw [machineStep_writing i hw] at hb' o' ⊢
    obtain ⟨extra, hx, hacc, hinv, hleave⟩ := ioWrite_acct (D := D) i hw (fo hph)
    have pl : payload D (ioWrite D s f i).1 f = payload D s f := by
      simp only [payload, region_congr f 0 (ioWrite_buf D s f i).1]
    generalize (ioWrite D s f i).1 = s' at *
    have stay : s'.ph f = .flush → s'.writing f := fun h => Classical.byContradiction (fun n => (hleave n).2.2 h)
    have hacc' : ∀ acc, (acc ++ outF f s'.log) ++ remF D s' f = (acc ++ outF f s.log) ++ remF D s f ++ extra := by
      intro acc; rw [List.append_assoc, hacc]; simp
    refine ⟨fun h => absurd hw h, fun _ => Or.inl hw, fun _ h => ?_, fun h => ?_, fun h => absurd hph h,
      fun h => hinv (stay h), fun acc t => ⟨fun op => ?_, fun nop => ?_⟩⟩
    · exact not_waiting_of_writing (stay (waiting_ph h)) h
    · exact absurd h (not_waiting_of_writing hw)
    · -- still open afterwards: it was open before and nothing was chosen
      rcases hx with ⟨hx0, hiff⟩ | ⟨_, _, nop⟩
      · obtain ⟨x, a, hs, ha, he⟩ := t.opened (hiff.1 op)
        exact ⟨x, a, hs, ha, by rw [hacc', hx0, List.append_nil, he, pl]⟩
      · exact absurd op nop
    · rw [hacc']
      rcases hx with ⟨hx0, hiff⟩ | ⟨hx1, op, _⟩
      · rw [hx0, List.append_nil]; exact t.closed (fun o => nop (hiff.2 o))
      · -- the closing line break has been chosen: the unit is whole
        obtain ⟨x, a, hs, ha, he⟩ := t.opened op
        rw [hx1, he]
        simpa [List.append_assoc] using hs.snoc (unit_framed D s f ha)
  · by_cases hwt : s.waiting f
    · rw [machineStep_waiting i hwt]
      obtain ⟨us, hl⟩ := ioWait_same D hwt
      exact ⟨fun _ => by rw [hl], fun _ => Or.inr hwt, fun h => absurd h hw, fun _ => us,
        fun h => absurd (waiting_ph hwt) h, us.ok fo, fun acc t => by rw [hl]; exact us.trace t⟩
    · -- no unit in progress: at most one starts, and then waits
      have hnf : s.ph f ≠ .flush := fun h => ((ph_flush_iff s f).1 h).elim hwt hw
      have ol := machineStep_idle D s f i hw
      have nfw : ¬ (machineStep D s f i).1.writing f := fun h => (machineStep_starts D s f i h).elim hw (fun g => hwt g.1)
      generalize (machineStep D s f i).1 = s' at *
      have hnf' : ¬ s'.waiting f → s'.ph f ≠ .flush := fun n h => ((ph_flush_iff s' f).1 h).elim n nfw
      have pd : PendF D s' f := fun w => (entry_unit hb' o' w).2 w
      refine ⟨fun _ => ol, fun h => absurd h nfw, fun h => absurd h hw, fun h => absurd h hwt, fun _ => pd,
        fun h => (entry_unit hb' o' (Classical.byContradiction (fun n => hnf' n h))).1, fun acc t => ?_⟩
      have he := (traceF_idle hnf).1 t
      rw [ol]
      by_cases w : s'.waiting f
      · exact pd.start w he
      · exact (traceF_idle (hnf' w)).2 he

theorem UnitStep.after {D : Desc} {f : Fsm} {s u s' : St} (o : OtherStep D f s u) (h : UnitStep D f u s') : UnitStep D f s s' :=
  ⟨fun n => by rw [← o.out]; exact h.quiet (fun g => n (o.writing.1 g)),
   fun g => (h.starts g).imp o.writing.1 o.waiting.1,
   fun g => h.ends (o.writing.2 g),
   fun g => o.same.trans (h.waits (o.waiting.2 g)),
   fun n => h.pend (by rw [o.same.ph]; exact n), h.ok,
   fun acc t => h.trace acc (by rw [o.out]; exact o.same.trace t)⟩

theorem UnitStep.before {D : Desc} {f : Fsm} {s u s' : St} (h : UnitStep D f s u) (o : OtherStep D f u s') : UnitStep D f s s' :=
  ⟨fun n => by rw [o.out]; exact h.quiet n,
   fun g => h.starts (o.writing.1 g),
   fun g w => h.ends g (o.waiting.1 w),
   fun g => (h.waits g).trans o.same,
   fun n => o.same.pend o.waiting.1 (h.pend n), o.same.ok h.ok,
   fun acc t => by rw [o.out]; exact o.same.trace (h.trace acc t)⟩

/-- **One `cat_service` body** keeps the accounting of machine `f`: the unsolicited machine's step, then the command
machine's, one of them `f`'s own. -/
theorem serviceBody_unitStep {D : Desc} (s : St) (f : Fsm) (i : SvcIn) (hu : i.hu.ret ≠ 4)
    (w : Wf D s) (ub : UbAll D s) (o : OobAll D s) (hb : BufLen D s f) (fo : FlushOkF D s f) :
    UnitStep D f s (serviceBody D s i).1 ∧ BufLen D (serviceBody D s i).1 f := by
  have so := serviceBody_oob s i hu w ub o
  have e : (serviceBody D s i).1 = (machineStep D (machineStep D s .uns i).1 .cmd i).1 := rfl
  rw [e] at so ⊢
  cases f
  · have ot := machineStep_other D s .cmd i hu
    exact ⟨.after ot (machineStep_unit _ .cmd i (ot.same.ok fo) so.2.1.buf so.2.2.c), so.2.1.buf⟩
  · have kr := unsolicitedEventsService_keepsCR D s i
    have hb1 : BufLen D (machineStep D s .uns i).1 .uns := hb.lengths kr.2.1 kr.2.2
    have st := machineStep_unit s .uns i fo hb1 (unsolicitedEventsService_oob s i w ub.2 o.u).2
    have kur := commandService_keepsUR D (machineStep D s .uns i).1 i
    exact ⟨.before st (machineStep_other D _ .uns i hu), hb1.lengths kur.2.2 (congrArg List.length kur.1)⟩

/-- what an accounting invariant `I D acc s` — `acc` the bytes `out` has seen so far — needs in order to survive every API
call -/
structure Acct (out : List Ev → List Byte) (I : Desc → List Byte → St → Prop) : Prop where
  app : ∀ a b, out (a ++ b) = out a ++ out b
  noWr : ∀ l, tr .wrC l = [] → tr .wrU l = [] → out l = []
  still : ∀ {D s s' acc}, Still s s' → I D acc s → I D acc s'
  desc : ∀ {D D' s acc}, DescEq D D' → I D acc s → I D' acc s
  body : ∀ {D s acc} (i : SvcIn), i.hu.ret ≠ 4 → Wf D s → UbAll D s → OobAll D s →
    tr .wrC s.log = [] → tr .wrU s.log = [] → I D acc s → I D (acc ++ out (serviceBody D s i).1.log) (serviceBody D s i).1

/-- Up to the body of `cat_service` the log of the call holds no output event, so nothing has been added to `acc`. -/
theorem Acct.step {out : List Ev → List Byte} {I : Desc → List Byte → St → Prop} (A : Acct out I) (w : World) (op : Op)
    (acc : List Byte) (hop : OpOk op) (g : Good w) (h : I w.D acc w.s) :
    I (apply w op).1.D (acc ++ out (apply w op).1.s.log) (apply w op).1.s :=
  apply_inv_still (P := fun a => Good a ∧ (tr .wrC a.s.log = [] ∧ tr .wrU a.s.log = []) ∧ I a.D acc a.s)
    (Q := fun a => I a.D (acc ++ out a.s.log) a.s) w op
    (weaken := fun a h => by rw [A.noWr _ h.2.1.1 h.2.1.2, List.append_nil]; exact h.2.2)
    (ring := fun _ h => h.1.wf.ring)
    (still := fun _ _ st hr hl h => ⟨h.1.still st hr, by rw [hl .wrC (by decide), hl .wrU (by decide)]; exact h.2.1, A.still st h.2.2⟩)
    (unlock := fun a r h => by
      rw [emit_log, A.app, A.noWr [.unlock r] rfl rfl, List.append_nil]
      exact A.still (.emit _ _) h)
    (svc := fun i e a h => by
      subst e
      exact A.body i hop h.1.wf h.1.ub h.1.oob h.2.1.1 h.2.1.2 h.2.2)
    (flag := fun a _ de h => by rw [A.noWr _ h.2.1.1 h.2.1.2, List.append_nil]; exact A.desc de h.2.2)
    ⟨g.still (.clear _) (g.wf.ring.congr (by simp)), ⟨rfl, rfl⟩, A.still (.clear _) h⟩

theorem Acct.history {out : List Ev → List Byte} {I : Desc → List Byte → St → Prop} (A : Acct out I) :
    ∀ (ops : List Op) (w : World) (acc : List Byte), (∀ op ∈ ops, OpOk op) → Good w → I w.D acc w.s →
    I (runOps w ops).1.D (acc ++ ((runOps w ops).2.map (fun x => out x.2)).flatten) (runOps w ops).1.s := by
  intro ops
  induction ops with
  | nil => intro w acc _ _ h; simpa [runOps] using h
  | cons op r ih =>
    intro w acc hok g h
    have b := ih (apply w op).1 (acc ++ out (apply w op).1.s.log) (fun o ho => hok o (by simp [ho]))
      (apply_good w op (hok op (by simp)) g).2 (A.step w op acc (hok op (by simp)) g h)
    simpa [runOps, List.append_assoc] using b

theorem Still.unitSame {D : Desc} {f : Fsm} {s s' : St} (h : Still s s') : UnitSameF D D f s s' :=
  ⟨h.1.ph f, (h.1.wsrc f).2, (h.1.wsrc f).1, h.1.pos f, region_congr f 0 h.1.b⟩

theorem DescEq.region {D D' : Desc} (de : DescEq D D') (s : St) (f : Fsm) : region D' s f 0 = region D s f 0 := by
  cases f <;> simp [Cat.St.region, de.same.ccap, de.same.ucap, Desc.unsBase, de.bufSize, de.unsBuf]

theorem DescEq.bufLen {D D' : Desc} (de : DescEq D D') {s : St} {f : Fsm} (h : BufLen D s f) : BufLen D' s f := by
  cases f <;> simp only [BufLen, BufOkU, de.same.ccap, de.same.ucap, Desc.unsBase, de.bufSize, de.unsBuf] at h ⊢ <;> exact h

theorem DescEq.unitSame {D D' : Desc} (de : DescEq D D') (s : St) (f : Fsm) : UnitSameF D D' f s s :=
  ⟨rfl, rfl, rfl, rfl, de.region s f⟩

def UnitsF (f : Fsm) (D : Desc) (acc : List Byte) (s : St) : Prop := BufLen D s f ∧ FlushOkF D s f ∧ TraceF D acc s f

theorem outF_noWr (f : Fsm) (l : List Ev) (hc : tr .wrC l = []) (hu : tr .wrU l = []) : outF f l = [] := by
  rw [outF_tr, show tr (wrCls f) l = [] by cases f; exact hc; exact hu]; rfl

/-- **The output of machine `f` is a sequence of whole units**, over any history. -/
theorem acctF (f : Fsm) : Acct (outF f) (UnitsF f) where
  app := outF_append f
  noWr := outF_noWr f
  still h x := ⟨x.1.lengths (by rw [h.1.b.1]) (by rw [h.1.b.2]), h.unitSame.ok x.2.1, h.unitSame.trace x.2.2⟩
  desc de x := ⟨de.bufLen x.1, (de.unitSame _ f).ok x.2.1, (de.unitSame _ f).trace x.2.2⟩
  body i hu w ub o hc hu' x := by
    have st := serviceBody_unitStep _ f i hu w ub o x.1 x.2.1
    exact ⟨st.2, st.1.ok, st.1.trace _ (by rw [outF_noWr f _ hc hu', List.append_nil]; exact x.2.2)⟩

/-- all bytes of the command machine accepted by `io->write` during a history -/
def outAllC (tr : List (Int × List Ev)) : List Byte := (tr.map (fun x => outC x.2)).flatten

theorem TraceF.cmd {D : Desc} {acc : List Byte} {s : St} (t : TraceF D acc s .cmd) (fo : FlushOkF D s .cmd) :
    Whole (acc ++ remC D s) := by
  by_cases o : OpenF s .cmd
  · obtain ⟨x, a, hx, ha, he⟩ := t.opened o
    rw [(remC_remF fo).1 o, ← List.append_assoc, he]
    simpa [List.append_assoc] using hx.snoc (unit_framed D s .cmd ha)
  · rw [(remC_remF fo).2 o]; exact t.closed o

end Cat
