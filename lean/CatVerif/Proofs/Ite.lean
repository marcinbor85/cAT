namespace Cat

/-- A property of both arms is a property of the `if`.  The proofs walk if-trees with this lemma where `split` is too dear:
`split` simplifies the whole goal again at every `if`, which on the 34-field record terms of the model costs twenty times
as much as descending with `refine rel_ite (fun _ => ?_) (fun _ => ?_)`. -/
theorem rel_ite {α : Sort _} {R : α → Prop} {c : Prop} [Decidable c] {a b : α} (ha : c → R a) (hb : ¬ c → R b) :
    R (if c then a else b) := by
  split
  · exact ha ‹_›
  · exact hb ‹_›

end Cat
