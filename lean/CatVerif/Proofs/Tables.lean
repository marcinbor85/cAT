/-
  The four return-code switches of the handler loops (`Gen.process_*_loop`, regenerated from
  `cat.c`) are the documented table `Spec.respSpec`, read through `Spec.callsOf`.  Whatever holds for
  the call list of every outcome `Spec.Next` therefore holds for every arm of every switch, for
  every integer return code: facts about handler loops are stated per outcome, not per code.
-/
import CatVerif.Spec.Resp
import CatVerif.Gen.Source
namespace Cat
open Spec

/-- the switch of the handler loop of kind `k`, as run by machine `f` -/
def loopTable : HKind → Int → Fsm → List Call
  | .write, ret, _ => Gen.process_write_loop ret
  | .run, ret, _ => Gen.process_run_loop ret
  | .read, ret, f => Gen.process_read_loop ret f
  | .test, ret, f => Gen.process_test_loop ret f

/-- the codes the switches distinguish; every other integer takes the `default:` arm -/
theorem ret_cases (ret : Int) :
    ret = 0 ∨ ret = 1 ∨ ret = 2 ∨ ret = 3 ∨ ret = 4 ∨ ret = 5 ∨ ret = 6 ∨ ret = 7 ∨
    (ret ≠ 0 ∧ ret ≠ 1 ∧ ret ≠ 2 ∧ ret ≠ 3 ∧ ret ≠ 4 ∧ ret ≠ 5 ∧ ret ≠ 6 ∧ ret ≠ 7) := by
  omega

theorem loopTable_eq (k : HKind) (ret : Int) (f : Fsm) : loopTable k ret f = callsOf k (respSpec k f ret) := by
  rcases ret_cases ret with h | h | h | h | h | h | h | h | ⟨h0, h1, h2, h3, h4, h5, h6, h7⟩
  iterate 8 (subst h; cases k <;> cases f <;> rfl)
  cases k <;> simp [loopTable, respSpec, callsOf, Gen.process_write_loop, Gen.process_run_loop,
    Gen.process_read_loop, Gen.process_test_loop, h0, h1, h2, h3, h4, h5, h6, h7]

theorem respSpec_cmdList {k : HKind} {f : Fsm} {ret : Int} (h : respSpec k f ret = .cmdListThenOk) :
    k = .run ∨ (k = .test ∧ f = .cmd) := by
  rcases ret_cases ret with h' | h' | h' | h' | h' | h' | h' | h' | ⟨h0, h1, h2, h3, h4, h5, h6, h7⟩
  iterate 8 (subst h'; cases k <;> cases f <;> simp [respSpec] at h ⊢)
  cases k <;> simp [respSpec, h0, h1, h2, h3, h4, h5, h6, h7] at h

theorem enableHold_mem_loopTable (k : HKind) (ret : Int) (f : Fsm) : .enableHold ∈ loopTable k ret f ↔ ret = 4 := by
  rw [loopTable_eq]
  rcases ret_cases ret with h | h | h | h | h | h | h | h | ⟨h0, h1, h2, h3, h4, h5, h6, h7⟩
  iterate 8 (subst h; cases k <;> cases f <;> decide)
  cases k <;> simp [respSpec, callsOf, h0, h1, h2, h3, h4, h5, h6, h7]

/-- calls that occur in the unsolicited machine's switches -/
def UnsCallQ : Call → Prop
  | .endOk | .endError | .startFlush _ | .startFormatRead | .startFormatTest | .holdExit _ | .enableHold => True
  | _ => False

/-- of the calls meant for the command machine the unsolicited machine's switches forward one, HOLD (code 4,
`enableHold_mem_loopTable`; DESIGN.md 2.3: event handlers are required not to answer it) -/
theorem unsTable_calls (k : HKind) (hk : k = .read ∨ k = .test) (ret : Int) :
    ∀ c ∈ loopTable k ret .uns, UnsCallQ c := by
  rw [loopTable_eq]
  rcases ret_cases ret with h | h | h | h | h | h | h | h | ⟨h0, h1, h2, h3, h4, h5, h6, h7⟩
  iterate 8 (subst h; rcases hk with rfl | rfl <;> simp [respSpec, callsOf, UnsCallQ])
  rcases hk with rfl | rfl <;> simp [respSpec, callsOf, UnsCallQ, h0, h1, h2, h3, h4, h5, h6, h7]

end Cat
