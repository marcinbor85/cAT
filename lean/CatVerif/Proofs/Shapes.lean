/-
  Shapes shared by several functions of the model, each with the equations that tie it to the model: an invariant is
  proved about a shape once, and the model's functions inherit it through the equations.
  * The four handler loops are one `loopStep` (for machine `f` and handler kind `k`); in a loop state of kind `k`
    (`loopKind`, `St.calling`) the command machine's step is `loopStep … k` (`commandService_loop`).
  * The seven reading states (`Reading`) are one `reader` (`commandService_reader`); `reader_fst` is the rule by which
    a fact about it is proved.
  * The two output steps and the two waits are `ioWrite` / `ioWait` for machine `f`, described through the
    machine-neutral accessors `St.ph`, `St.wst`, `St.wsrc`, `St.pos` (`ioWrite_fst`).
-/
import CatVerif.Proofs.Tables
import CatVerif.Proofs.Frame
namespace Cat
open St

/-- the answer of the command handler invoked by machine `f` -/
def SvcIn.h (i : SvcIn) : Fsm → HAnswer
  | .cmd => i.hc
  | .uns => i.hu

/-- the variable callback's answer as seen by machine `f` -/
def SvcIn.v (i : SvcIn) : Fsm → HAnswer
  | .cmd => i.vc
  | .uns => i.vu

/-- read and test handlers own the response buffer -/
def HKind.edits : HKind → Bool
  | .read | .test => true
  | .write | .run => false

/-- what a handler of kind `k` is shown, as logged -/
def handlerEv (D : Desc) (f : Fsm) (k : HKind) (s : St) (ret : Int) : Ev :=
  match k with
  | .write => .handler .cmd .write (s.cmd.getD 0) ((region D s .cmd 0).take s.length)
      (getB D s .cmd s.length == 0 && s.length < D.cmdCap) s.length s.index ret
  | .run => .handler .cmd .run (s.cmd.getD 0) [] true 0 0 ret
  | .read => .handler f .read ((s.cmdOf f).getD 0) (cstr D s f).1 (cstr D s f).2 (s.pos f) (D.capOf f) ret
  | .test => .handler f .test ((s.cmdOf f).getD 0) (cstr D s f).1 (cstr D s f).2 (s.pos f) (D.capOf f) ret

def cbCls : Fsm → Cls
  | .cmd => .cbC
  | .uns => .cbU

theorem handlerEv_cls (D : Desc) (f : Fsm) (k : HKind) (hk : f = .uns → k = .read ∨ k = .test) (s : St) (ret : Int) :
    cls (handlerEv D f k s ret) = cbCls f := by
  cases f <;> cases k <;> simp [handlerEv, cls, cbCls] at hk ⊢

/-- one handler call: a command must be selected; the call is logged; what the handler did through the API
takes effect; the switch interprets its return code -/
def loopStep (D : Desc) (f : Fsm) (k : HKind) (s : St) (ans : HAnswer) : St :=
  let s := s.chkUb (s.cmdOf f).isSome
  doCalls D f (applyNested D f k.edits (s.emit (handlerEv D f k s ans.ret)) ans.acts) (loopTable k ans.ret f)

theorem processWriteLoop_eq (D : Desc) (s : St) (i : SvcIn) :
    processWriteLoop D s i = (loopStep D .cmd .write s i.hc, Gen.CAT_STATUS_BUSY) := rfl
theorem processRunLoop_eq (D : Desc) (s : St) (i : SvcIn) :
    processRunLoop D s i = (loopStep D .cmd .run s i.hc, Gen.CAT_STATUS_BUSY) := rfl
theorem processReadLoop_eq (D : Desc) (s : St) (f : Fsm) (i : SvcIn) :
    processReadLoop D s f i = (loopStep D f .read s (i.h f), Gen.CAT_STATUS_BUSY) := by cases f <;> rfl
theorem processTestLoop_eq (D : Desc) (s : St) (f : Fsm) (i : SvcIn) :
    processTestLoop D s f i = (loopStep D f .test s (i.h f), Gen.CAT_STATUS_BUSY) := by cases f <;> rfl

def loopKind : CState → Option HKind
  | .writeLoop => some .write
  | .readLoop => some .read
  | .testLoop => some .test
  | .runLoop => some .run
  | _ => none

theorem commandService_loop {D : Desc} {s : St} {k : HKind} (i : SvcIn) (h : loopKind s.state = some k) :
    commandService D s i = (loopStep D .cmd k s i.hc, Gen.CAT_STATUS_BUSY) := by
  cases hs : s.state <;> simp [hs, loopKind] at h <;> subst h <;> simp only [commandService, hs]
  all_goals rfl

/-- the state in which a reading function runs its body: the delivered byte is logged and stored
(upper-cased outside the argument text) -/
def rdChar (s : St) (b : Byte) : St :=
  { s.emit (.rd (some b)) with currentChar := if s.state != .parseCommandArgs then toUpper b else b }

/-- a reading state: the read is refused, or `body` runs on the state that holds the byte -/
def reader (body : St → St) (s : St) (i : SvcIn) : St × Int :=
  match i.rd with
  | none => (s.emit (.rd none), Gen.CAT_STATUS_OK)
  | some b => (body (rdChar s b), Gen.CAT_STATUS_BUSY)

theorem reader_fst {P : St → Prop} {B : St → St} (s : St) (i : SvcIn)
    (h0 : P (s.emit (.rd none))) (h1 : ∀ b, P (B (rdChar s b))) : P (reader B s i).1 := by
  unfold reader
  cases i.rd with
  | none => exact h0
  | some b => exact h1 b

/-- what each reading function does with the byte it has read: the text of `error_state`, `process_idle_state`,
`parse_prefix`, `parse_command`, `wait_read_acknowledge`, `wait_test_acknowledge`, `parse_command_args` behind the read -/
def readerBody (D : Desc) (st : CState) (s : St) : St :=
  match st with
  | .error =>
    if s.currentChar == 10 then ackError D s
    else if s.currentChar == 13 then { s with crFlag := true }
    else s
  | .idle =>
    if s.currentChar == 65 then { s with state := .parsePrefix }
    else if s.currentChar == 10 || s.currentChar == 13 then s
    else { s with state := .error }
  | .parsePrefix =>
    if s.currentChar == 84 then { prepareParseCommand D s with state := .parseCommandChar }
    else if s.currentChar == 10 then ackError D s
    else if s.currentChar == 13 then { s with crFlag := true }
    else { s with state := .error }
  | .parseCommandChar =>
    let ch := s.currentChar
    if ch == 10 then
      if s.length != 0 then { prepareSearchCommand s with state := .searchCommand }
      else ackOk D s
    else if ch == 13 then { s with crFlag := true }
    else if ch == 63 then
      if s.length == 0 then { s with state := .error }
      else { s with cmdType := .read, state := .waitReadAck }
    else if ch == 61 then
      if s.length == 0 then { s with state := .error }
      else { prepareSearchCommand { s with cmdType := .write } with state := .searchCommand }
    else if isNameChar ch then { s with length := s.length + 1, state := .updateCommandState }
    else { s with state := .error }
  | .waitReadAck =>
    if s.currentChar == 10 then { prepareSearchCommand s with state := .searchCommand }
    else if s.currentChar == 13 then { s with crFlag := true }
    else { s with state := .error }
  | .waitTestAck =>
    if s.currentChar == 10 then startFormatTest D s .cmd
    else if s.currentChar == 13 then { s with crFlag := true }
    else { s with state := .error }
  | .parseCommandArgs =>
    let s := s.chkUb s.cmd.isSome
    let c := D.cmdD s.cmd
    let ch := s.currentChar
    if ch == 10 then
      if c.onlyTest then ackError D s
      else if varsAccessible c .wo then
        if strlenOf (region D s .cmd 0) != s.length then ackError D s
        else { s with state := .parseWriteArgs, position := 0, index := 0 }
      else if !c.hasWrite then ackError D s
      else { s with index := 0, state := .writeLoop }
    else if ch == 13 then { s with crFlag := true }
    else if s.length == 0 && ch == 63 && (c.hasTest || (c.vars.isSome && c.varNum > 0))
            && c.implicitWrite == false then
      { s with cmdType := .test, state := .waitTestAck }
    else if s.length ≥ D.cmdCap then { s with state := .error }
    else
      let s := setB D s .cmd s.length ch
      let s := { s with length := s.length + 1 }
      if s.length < D.cmdCap then setB D s .cmd s.length 0 else { s with state := .error }
  | _ => s

theorem errorState_eq (D : Desc) (s : St) (i : SvcIn) : errorState D s i = reader (readerBody D .error) s i := by
  unfold errorState reader readCmdChar; cases i.rd <;> rfl
theorem processIdleState_eq (D : Desc) (s : St) (i : SvcIn) : processIdleState s i = reader (readerBody D .idle) s i := by
  unfold processIdleState reader readCmdChar; cases i.rd <;> rfl
theorem parsePrefix_eq (D : Desc) (s : St) (i : SvcIn) : parsePrefix D s i = reader (readerBody D .parsePrefix) s i := by
  unfold parsePrefix reader readCmdChar; cases i.rd <;> rfl
theorem parseCommand_eq (D : Desc) (s : St) (i : SvcIn) : parseCommand D s i = reader (readerBody D .parseCommandChar) s i := by
  unfold parseCommand reader readCmdChar; cases i.rd <;> rfl
theorem waitReadAcknowledge_eq (D : Desc) (s : St) (i : SvcIn) :
    waitReadAcknowledge s i = reader (readerBody D .waitReadAck) s i := by
  unfold waitReadAcknowledge reader readCmdChar; cases i.rd <;> rfl
theorem waitTestAcknowledge_eq (D : Desc) (s : St) (i : SvcIn) :
    waitTestAcknowledge D s i = reader (readerBody D .waitTestAck) s i := by
  unfold waitTestAcknowledge reader readCmdChar; cases i.rd <;> rfl
theorem parseCommandArgs_eq (D : Desc) (s : St) (i : SvcIn) :
    parseCommandArgs D s i = reader (readerBody D .parseCommandArgs) s i := by
  unfold parseCommandArgs reader readCmdChar; cases i.rd <;> rfl

/-- the states in which the command machine's step begins with `read_cmd_char` -/
def Reading (st : CState) : Prop :=
  st = .idle ∨ st = .parsePrefix ∨ st = .parseCommandChar ∨ st = .waitReadAck ∨ st = .parseCommandArgs ∨
  st = .waitTestAck ∨ st = .error

instance (st : CState) : Decidable (Reading st) := by unfold Reading; infer_instance

theorem commandService_reader {D : Desc} {s : St} (i : SvcIn) (h : Reading s.state) :
    commandService D s i = reader (readerBody D s.state) s i := by
  unfold Reading at h
  rcases h with h | h | h | h | h | h | h <;> simp only [commandService, h]
  · exact processIdleState_eq D s i
  · exact parsePrefix_eq D s i
  · exact parseCommand_eq D s i
  · exact waitReadAcknowledge_eq D s i
  · exact parseCommandArgs_eq D s i
  · exact waitTestAcknowledge_eq D s i
  · exact errorState_eq D s i

/-- what the buffer invariants tell apart in a machine's state: a unit is being flushed (FLUSH_IO_WRITE_WAIT, FLUSH_IO_WRITE),
a read or test handler loop runs (the region holds the text handed to the handler), anything else.  Not `write_state` 0/1/2
(line break, payload, line break within one flush), which `Proofs/Units.lean` calls the phase. -/
inductive Ph | flush | loop | other
  deriving DecidableEq, Repr

def CState.ph : CState → Ph
  | .flushWait | .flushWrite => .flush
  | .readLoop | .testLoop => .loop
  | _ => .other

def UState.ph : UState → Ph
  | .flushWait | .flushWrite => .flush
  | .readLoop | .testLoop => .loop
  | _ => .other

namespace St
def ph (s : St) : Fsm → Ph
  | .cmd => s.state.ph
  | .uns => s.ustate.ph
def wsrc (s : St) : Fsm → WSrc
  | .cmd => s.writeSrc
  | .uns => s.uwriteSrc
def wst (s : St) : Fsm → Nat
  | .cmd => s.writeState
  | .uns => s.uwriteState
/-- machine `f` has a unit ready and waits for the output -/
def waiting (s : St) : Fsm → Prop
  | .cmd => s.state = .flushWait
  | .uns => s.ustate = .flushWait
/-- machine `f` is in FLUSH_IO_WRITE, the only state in which it offers bytes to `io->write` -/
def writing (s : St) : Fsm → Prop
  | .cmd => s.state = .flushWrite
  | .uns => s.ustate = .flushWrite
/-- set the unit bookkeeping of machine `f`: phase, source, cursor -/
def setUnit (s : St) (f : Fsm) (ws : Nat) (src : WSrc) (p : Nat) : St :=
  match f with
  | .cmd => { s with position := p, writeSrc := src, writeState := ws }
  | .uns => { s with uposition := p, uwriteSrc := src, uwriteState := ws }
/-- machine `f` goes on to the state its unit was started for -/
def leave (s : St) (f : Fsm) : St :=
  match f with
  | .cmd => { s with state := s.writeStateAfter.toC }
  | .uns => { s with ustate := s.uwriteStateAfter.toU }
end St

/-- machine `f` is in the loop state of handler kind `k` (the unsolicited machine has read and test loops only) -/
def St.calling (s : St) (k : HKind) : Fsm → Prop
  | .cmd => loopKind s.state = some k
  | .uns => match k with
    | .read => s.ustate = .readLoop
    | .test => s.ustate = .testLoop
    | _ => False

def Fsm.other : Fsm → Fsm
  | .cmd => .uns
  | .uns => .cmd

theorem not_waiting_of_writing {s : St} {f : Fsm} (h : s.writing f) : ¬ s.waiting f := by
  cases f <;> simp_all [St.writing, St.waiting]

theorem ph_flush_iff (s : St) (f : Fsm) : s.ph f = .flush ↔ s.waiting f ∨ s.writing f := by
  cases f
  · simp only [St.ph, St.waiting, St.writing]; cases s.state <;> simp [CState.ph]
  · simp only [St.ph, St.waiting, St.writing]; cases s.ustate <;> simp [UState.ph]

theorem waiting_ph {s : St} {f : Fsm} (h : s.waiting f) : s.ph f = .flush := (ph_flush_iff s f).2 (.inl h)

/-- `process_io_write` / `unsolicited_process_io_write` -/
def ioWrite (D : Desc) (s : St) (f : Fsm) (i : SvcIn) : St × Int :=
  match f with
  | .cmd => processIoWrite D s i
  | .uns => unsolicitedProcessIoWrite D s i

/-- `process_io_write_wait` / `unsolicited_process_io_write_wait` -/
def ioWait (s : St) (f : Fsm) : St × Int :=
  match f with
  | .cmd => processIoWriteWait s
  | .uns => unsolicitedProcessIoWriteWait s

def machineStep (D : Desc) (s : St) (f : Fsm) (i : SvcIn) : St × Int :=
  match f with
  | .cmd => commandService D s i
  | .uns => unsolicitedEventsService D s i

@[simp] theorem ioWrite_cmd (D : Desc) (s : St) (i : SvcIn) : ioWrite D s .cmd i = processIoWrite D s i := rfl
@[simp] theorem ioWrite_uns (D : Desc) (s : St) (i : SvcIn) : ioWrite D s .uns i = unsolicitedProcessIoWrite D s i := rfl
@[simp] theorem ioWait_cmd (s : St) : ioWait s .cmd = processIoWriteWait s := rfl
@[simp] theorem ioWait_uns (s : St) : ioWait s .uns = unsolicitedProcessIoWriteWait s := rfl
@[simp] theorem machineStep_cmd (D : Desc) (s : St) (i : SvcIn) : machineStep D s .cmd i = commandService D s i := rfl
@[simp] theorem machineStep_uns (D : Desc) (s : St) (i : SvcIn) : machineStep D s .uns i = unsolicitedEventsService D s i := rfl

theorem machineStep_writing {D : Desc} {s : St} {f : Fsm} (i : SvcIn) (h : s.writing f) : machineStep D s f i = ioWrite D s f i := by
  cases f <;> simp only [St.writing] at h <;> simp [machineStep, ioWrite, commandService, unsolicitedEventsService, h]

theorem machineStep_waiting {D : Desc} {s : St} {f : Fsm} (i : SvcIn) (h : s.waiting f) : machineStep D s f i = ioWait s f := by
  cases f <;> simp only [St.waiting] at h <;> simp [machineStep, ioWait, commandService, unsolicitedEventsService, h]

theorem writeByte_eq (D : Desc) (s : St) (f : Fsm) :
    writeByte D s f = match s.wsrc f with
      | .nl off => (([13, 10, 0] : List Byte).getD (off + s.pos f) 0, decide (off + s.pos f ≤ 2))
      | .main => (getB D s f (s.pos f), decide (s.pos f < D.capOf f)) := by
  cases f <;> rfl

theorem ioWrite_fst (D : Desc) (s : St) (f : Fsm) (i : SvcIn) : (ioWrite D s f i).1 =
    (let s0 := s.chk (writeByte D s f).2
     let ch := (writeByte D s f).1
     if ch == 0 then
       if s0.wst f == 0 then s0.setUnit f 1 .main 0
       else if s0.wst f == 1 then s0.setUnit f 2 (.nl (nlOff s0)) 0
       else if s0.wst f == 2 then (s0.leave f).emit (.flushEnd f)
       else s0
     else
       let s1 := s0.emit (.wr f ch i.wr (unitPart (s0.wst f) (s0.wsrc f)))
       if !i.wr then s1 else s1.setPos f (s1.pos f + 1)) := by
  cases f
  · simp only [ioWrite, processIoWrite, apply_ite Prod.fst]; rfl
  · simp only [ioWrite, unsolicitedProcessIoWrite, apply_ite Prod.fst]; rfl

@[simp] theorem chk_unit (s : St) (c : Bool) (f : Fsm) :
    (s.chk c).ph f = s.ph f ∧ (s.chk c).wst f = s.wst f ∧ (s.chk c).wsrc f = s.wsrc f ∧ (s.chk c).pos f = s.pos f ∧
    ((s.chk c).writing f ↔ s.writing f) := by
  cases f <;> simp [St.ph, St.wst, St.wsrc, St.pos, St.writing]

@[simp] theorem emit_unit (s : St) (e : Ev) (f : Fsm) :
    (s.emit e).ph f = s.ph f ∧ (s.emit e).wst f = s.wst f ∧ (s.emit e).wsrc f = s.wsrc f ∧ (s.emit e).pos f = s.pos f ∧
    ((s.emit e).writing f ↔ s.writing f) := by
  cases f <;> exact ⟨rfl, rfl, rfl, rfl, Iff.rfl⟩

@[simp] theorem setUnit_unit (s : St) (f : Fsm) (ws : Nat) (src : WSrc) (p : Nat) :
    (s.setUnit f ws src p).wst f = ws ∧ (s.setUnit f ws src p).wsrc f = src ∧ (s.setUnit f ws src p).pos f = p ∧
    (s.setUnit f ws src p).ph f = s.ph f ∧ ((s.setUnit f ws src p).writing f ↔ s.writing f) ∧
    SameBuf s (s.setUnit f ws src p) ∧ (s.setUnit f ws src p).crFlag = s.crFlag ∧ (s.setUnit f ws src p).log = s.log ∧
    (s.setUnit f ws src p).oob = s.oob ∧ (s.setUnit f ws src p).ub = s.ub := by
  cases f <;> exact ⟨rfl, rfl, rfl, rfl, Iff.rfl, ⟨rfl, rfl⟩, rfl, rfl, rfl, rfl⟩

@[simp] theorem leave_unit (s : St) (f : Fsm) :
    (s.leave f).wst f = s.wst f ∧ (s.leave f).wsrc f = s.wsrc f ∧ (s.leave f).pos f = s.pos f ∧
    (s.leave f).ph f = .other ∧ SameBuf s (s.leave f) ∧ (s.leave f).crFlag = s.crFlag ∧ (s.leave f).log = s.log ∧
    (s.leave f).oob = s.oob ∧ (s.leave f).ub = s.ub := by
  cases f
  · exact ⟨rfl, rfl, rfl, by cases h : s.writeStateAfter <;> simp [St.leave, St.ph, h, After.toC, CState.ph], ⟨rfl, rfl⟩, rfl, rfl, rfl, rfl⟩
  · exact ⟨rfl, rfl, rfl, by cases h : s.uwriteStateAfter <;> simp [St.leave, St.ph, h, After.toU, UState.ph], ⟨rfl, rfl⟩, rfl, rfl, rfl, rfl⟩

@[simp] theorem setPos_unit (s : St) (f : Fsm) (p : Nat) :
    (s.setPos f p).wst f = s.wst f ∧ (s.setPos f p).wsrc f = s.wsrc f ∧ ((s.setPos f p).writing f ↔ s.writing f) := by
  cases f <;> exact ⟨rfl, rfl, Iff.rfl⟩

@[simp] theorem setPos_ph (s : St) (f : Fsm) (p : Nat) : (s.setPos f p).ph f = s.ph f := by cases f <;> rfl

/-- machine `f` leaves FLUSH_IO_WRITE only from the terminator of the closing line break -/
theorem ioWrite_leaves {D : Desc} {s : St} {f : Fsm} (i : SvcIn) (hs : s.writing f) (h : ¬ (ioWrite D s f i).1.writing f) :
    (writeByte D s f).1 = 0 ∧ s.wst f = 2 ∧ (ioWrite D s f i).1 = ((s.chk (writeByte D s f).2).leave f).emit (.flushEnd f) := by
  rw [ioWrite_fst] at h ⊢
  simp only [chk_unit, beq_iff_eq] at h ⊢
  by_cases hz : (writeByte D s f).1 = 0
  · by_cases h2 : s.wst f = 2
    · simp [hz, h2]
    · refine absurd ?_ h
      simp only [hz, h2, if_true, if_false]
      (repeat' split) <;> simp [hs]
  · refine absurd ?_ h
    simp only [hz, if_false]
    split <;> simp [hs]

end Cat
