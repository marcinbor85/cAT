/-
  The exact text a read or test handler is first called with (C06), for either machine: the name and `=` for a command that
  answers READ through its read handler alone (`startFormatRead_textF`), `testText` for TEST of a command without variables
  (`startFormatTest_textF`); `first_read_text` / `first_test_text`: the next step of that machine hands exactly this text to
  the handler.  `TxtC` / `PreC` are `TxtF` / `PreF` (`Proofs/TextF.lean`) at the command machine, unfolded.
-/
import CatVerif.Proofs.TextF
namespace Cat
open St

def TxtC (D : Desc) (s : St) (t : List Byte) : Prop :=
  s.position = t.length ∧ t.length < D.cmdCap ∧ (∀ i, i < t.length → s.buf.getD i 0 = t.getD i 0) ∧ s.buf.getD t.length 0 = 0

def PreC (D : Desc) (s : St) (t : List Byte) : Prop :=
  s.position = t.length ∧ t.length ≤ D.cmdCap ∧ (∀ i, i < t.length → s.buf.getD i 0 = t.getD i 0)

/-- a NUL-free text under the cursor is what `strlen` sees: the handler's C string is exactly the text, its length the position -/
theorem TxtC.cstr_eq {D : Desc} {s : St} {t : List Byte} (hb : D.cmdCap ≤ s.buf.length) (h : TxtC D s t) (hn : ∀ b ∈ t, b ≠ 0) :
    cstr D s .cmd = (t, true) ∧ s.position = t.length :=
  TxtF.cstr_eq (f := .cmd) hb h hn

/-- `start_processing_format_*_args` begins by printing the name and `=` at the start of the region -/
theorem printHead_txtF {D : Desc} {f : Fsm} (s : St) (c : CmdD) (hb : BufLen D s f) (hfit : c.name.length + 1 < D.capOf f) :
    ∃ s1, printAll D (s.setPos f 0) f [c.name, [61]] = (s1, true) ∧ TxtF D s1 f (c.name ++ [61]) ∧ BufLen D s1 f ∧
      s1.cmdOf f = s.cmdOf f ∧ s1.crFlag = s.crFlag := by
  obtain ⟨s1, e, tx, b1, c1, r1⟩ := printAll_txtF [c.name, [61]] (s.setPos f 0) [] (hb.lengths (by simp) (by simp))
    ⟨setPos_pos s f 0, Nat.zero_le _, fun i hi => by simp at hi⟩ (by simp) (by simp; omega)
  refine ⟨s1, e, by simpa using tx, b1, c1.trans ?_, r1.trans ?_⟩ <;> cases f <;> simp [St.setPos, St.cmdOf]

theorem startFormatRead_textF (D : Desc) (s : St) (f : Fsm) (hb : BufLen D s f) (hc : (s.cmdOf f).isSome = true)
    (hv : varsAccessible (D.cmdD (s.cmdOf f)) .ro = false) (hr : (D.cmdD (s.cmdOf f)).hasRead = true)
    (hfit : (D.cmdD (s.cmdOf f)).name.length + 1 < D.capOf f) :
    TxtF D (startFormatRead D s f) f ((D.cmdD (s.cmdOf f)).name ++ [61]) ∧
    (startFormatRead D s f).cmdOf f = s.cmdOf f ∧ BufLen D (startFormatRead D s f) f ∧
    (startFormatRead D s f).calling .read f := by
  obtain ⟨s1, e, tx, b1, c1, _⟩ := printHead_txtF s (D.cmdD (s.cmdOf f)) hb hfit
  unfold startFormatRead
  simp only [St.chkUb, setPos_cmdOf, hc, if_true, e, Bool.not_true, Bool.false_eq_true, if_false, hv, hr]
  cases f <;> exact ⟨tx, c1, b1, rfl⟩

theorem printResponseTest_eqF (D : Desc) (s : St) (f : Fsm) (hc : (s.cmdOf f).isSome = true) :
    printResponseTest D s f =
      (let r := match (D.cmdD (s.cmdOf f)).desc with
         | some d => printAll D s f [nlStr s, d]
         | none => (s, true)
       if !r.2 then (r.1, false)
       else if (D.cmdD (s.cmdOf f)).hasTest then (setStateTL r.1 f, true)
       else (startFlush r.1 f .ok, true)) := by
  unfold printResponseTest
  simp only [St.chkUb, hc, if_true]
  cases (D.cmdD (s.cmdOf f)).desc <;> rfl

/-- the TEST response a test handler is first called with, for a command without variables -/
def testText (c : CmdD) (nl : List Byte) : List Byte :=
  c.name ++ [61] ++ (match c.desc with | some d => nl ++ d | none => [])

theorem startFormatTest_textF (D : Desc) (s : St) (f : Fsm) (hb : BufLen D s f) (hc : (s.cmdOf f).isSome = true)
    (hv : ((D.cmdD (s.cmdOf f)).vars.isSome && decide ((D.cmdD (s.cmdOf f)).varNum > 0)) = false)
    (ht : (D.cmdD (s.cmdOf f)).hasTest = true)
    (hfit : (testText (D.cmdD (s.cmdOf f)) (nlStr s)).length < D.capOf f) :
    TxtF D (startFormatTest D s f) f (testText (D.cmdD (s.cmdOf f)) (nlStr s)) ∧
    (startFormatTest D s f).cmdOf f = s.cmdOf f ∧ BufLen D (startFormatTest D s f) f ∧
    (startFormatTest D s f).calling .test f := by
  obtain ⟨c, hcd⟩ : ∃ c, D.cmdD (s.cmdOf f) = c := ⟨_, rfl⟩
  rw [hcd] at hv ht hfit ⊢
  have hlen : c.name.length + 1 ≤ (testText c (nlStr s)).length := by
    unfold testText; simp only [List.length_append, List.length_singleton]; omega
  obtain ⟨s1, e, tx, b1, c1, r1⟩ := printHead_txtF s c hb (by omega)
  have hnl : nlStr s1 = nlStr s := by simp only [nlStr, r1]
  unfold startFormatTest
  simp only [St.chkUb, setPos_cmdOf, hc, if_true, hcd, e, Bool.not_true, Bool.false_eq_true, if_false, hv]
  rw [printResponseTest_eqF D s1 f (by rw [c1]; exact hc)]
  simp only [c1, hcd]
  have key : ∃ s2, (match c.desc with | some d => printAll D s1 f [nlStr s1, d] | none => (s1, true)) = (s2, true) ∧
      TxtF D s2 f (testText c (nlStr s)) ∧ s2.cmdOf f = s.cmdOf f ∧ BufLen D s2 f := by
    cases hd : c.desc with
    | none => exact ⟨s1, rfl, by simpa [testText, hd] using tx, c1, b1⟩
    | some d =>
      obtain ⟨s2, e2, tx2, b2, c2, _⟩ := printAll_txtF [nlStr s1, d] s1 _ b1 tx.pre (by simp)
        (by simp [testText, hd, hnl] at hfit ⊢; omega)
      exact ⟨s2, e2, by simpa [testText, hd, hnl, List.append_assoc] using tx2, c2.trans c1, b2⟩
  obtain ⟨s2, e2, tx2, hcm, hbl⟩ := key
  simp only [e2, Bool.not_true, Bool.false_eq_true, if_false, ht, if_true]
  cases f <;> exact ⟨tx2, hcm, hbl, rfl⟩

/-- **Exact text, first round, handler-only READ, either machine**: when READ of a command without readable variables is
started, the next step of that machine invokes the read handler with exactly the command's name followed by `=` as
NUL-terminated text in the machine's own region, `data_size` = its length, `max_data_size` = the region's capacity. -/
theorem first_read_text (D : Desc) (f : Fsm) (s : St) (i : SvcIn) (hb : BufLen D s f) (hc : (s.cmdOf f).isSome = true)
    (hv : varsAccessible (D.cmdD (s.cmdOf f)) .ro = false) (hr : (D.cmdD (s.cmdOf f)).hasRead = true)
    (hfit : (D.cmdD (s.cmdOf f)).name.length + 1 < D.capOf f) (hn : ∀ b ∈ (D.cmdD (s.cmdOf f)).name, b ≠ 0) :
    tr (cbCls f) (machineStep D (startFormatRead D s f) f i).1.log = tr (cbCls f) (startFormatRead D s f).log ++
      [.handler f .read ((s.cmdOf f).getD 0) ((D.cmdD (s.cmdOf f)).name ++ [61]) true ((D.cmdD (s.cmdOf f)).name.length + 1)
        (D.capOf f) (i.h f).ret] := by
  obtain ⟨htx, hcm, hbl, hst⟩ := startFormatRead_textF D s f hb hc hv hr hfit
  have e := htx.cstr_eq hbl (by simpa [or_imp, forall_and] using hn)
  rw [machineStep_invokes i hst, handlerEv, e.1, e.2, hcm]
  simp

/-- **Exact text, first round, TEST of a command without variables, either machine**: the test handler is first invoked
with exactly `testText` (name, `=`, and line break and description when there is one), its length and the capacity. -/
theorem first_test_text (D : Desc) (f : Fsm) (s : St) (i : SvcIn) (hb : BufLen D s f) (hc : (s.cmdOf f).isSome = true)
    (hv : ((D.cmdD (s.cmdOf f)).vars.isSome && decide ((D.cmdD (s.cmdOf f)).varNum > 0)) = false)
    (ht : (D.cmdD (s.cmdOf f)).hasTest = true)
    (hfit : (testText (D.cmdD (s.cmdOf f)) (nlStr s)).length < D.capOf f)
    (hn : ∀ b ∈ testText (D.cmdD (s.cmdOf f)) (nlStr s), b ≠ 0) :
    tr (cbCls f) (machineStep D (startFormatTest D s f) f i).1.log = tr (cbCls f) (startFormatTest D s f).log ++
      [.handler f .test ((s.cmdOf f).getD 0) (testText (D.cmdD (s.cmdOf f)) (nlStr s)) true
        (testText (D.cmdD (s.cmdOf f)) (nlStr s)).length (D.capOf f) (i.h f).ret] := by
  obtain ⟨htx, hcm, hbl, hst⟩ := startFormatTest_textF D s f hb hc hv ht hfit
  have e := htx.cstr_eq hbl hn
  rw [machineStep_invokes i hst, handlerEv, e.1, e.2, hcm]

end Cat
