/-
  The side condition `OpOk` under which histories are considered, and C11's invariant `FlushExcl` through one API call.
-/
import CatVerif.Proofs.GraphU
import CatVerif.Proofs.History
import CatVerif.Proofs.Graph
namespace Cat
open St

/-- side conditions on an operation (DESIGN.md 2.3): handlers run by the unsolicited machine
do not answer HOLD -/
def OpOk : Op → Prop
  | .service i => i.hu.ret ≠ 4
  | _ => True

/-- C11: the two machines are never both in FLUSH_IO_WRITE -/
def FlushExcl (s : St) : Prop := ¬ (s.state = .flushWrite ∧ s.ustate = .flushWrite)

theorem serviceBody_flushExcl (D : Desc) (s : St) (i : SvcIn) (h : FlushExcl s) : FlushExcl (serviceBody D s i).1 := by
  unfold serviceBody
  simp only
  intro ⟨hc, hu⟩
  -- the command machine's step keeps `ustate`, and enters FLUSH_IO_WRITE only while the other machine is not there
  rw [(commandService_keepsU D _ i).1.1] at hu
  rcases cmd_flushWrite D _ i hc with g | ⟨_, g⟩
  · -- so it was there already; the unsolicited machine's step kept `state`, and entered only while it was not there
    rcases uns_flushWrite D s i hu with e | ⟨e, ne⟩
    · exact h ⟨uns_flush_keeps_state D s i (.inr e) ▸ g, e⟩
    · exact ne (uns_flush_keeps_state D s i (.inl e) ▸ g)
  · exact g hu

theorem apply_flushExcl (w : World) (op : Op) (h : FlushExcl w.s) : FlushExcl (apply w op).1.s :=
  apply_keeps (I := fun a => FlushExcl a.s) w op (lock := fun _ _ h => h) (unlock := fun _ _ h => h)
    (svc := fun i _ a h => serviceBody_flushExcl a.D a.s i h)
    (push := fun _ _ _ _ _ _ h => by simpa [FlushExcl] using h) (exit := fun _ _ h => by simpa [FlushExcl] using h)
    (flag := fun _ _ _ h => h) (poke := fun _ _ _ _ _ h => h) h

end Cat
