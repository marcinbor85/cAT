/-
  Translator item T7: `reset_state` (clears `cr_flag` and returns to IDLE unless a command is held) and `unsolicited_reset_state`: C01, C14, C20.
  (`Gen/Setters/Reset.lean`, regenerated from `src/cat.c` on every run; the model's functions are proved equal to the generated ones).
-/
import CatVerif.Gen.Setters.Reset
namespace Cat

theorem resetState_generated (D : Desc) (s : St) : resetState s = Gen.reset_state D s := rfl

theorem unsolicitedResetState_generated (D : Desc) (s : St) : unsolicitedResetState s = Gen.unsolicited_reset_state D s := rfl

end Cat
