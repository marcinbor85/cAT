/-
  How an invariant is carried through one API call and along a history.

  `apply` clears the log and then runs one of four bodies (`serviceBody`, nothing,
  `pushUnsolicited`, `holdExit`) inside the lock bracket, or changes a flag of the descriptor, or
  pokes variable storage.  `withMutex_cases` says what the bracket can be; `apply_inv` says that a
  pair of predicates carried by these moves is carried by `apply`; `runOps_inv` is the induction.
-/
import CatVerif.Model.Api
namespace Cat
open St

theorem withMutex_cases {motive : St × Int → Prop} (D : Desc) (s : St) (lk ul : Int) (body : St → St × Int)
    (plain : motive (body s))
    (refused : lk ≠ 0 → motive (s.emit (.lock lk), Gen.CAT_STATUS_ERROR_MUTEX_LOCK))
    (locked : lk = 0 → motive ((body (s.emit (.lock lk))).1.emit (.unlock ul),
      if ul ≠ 0 then Gen.CAT_STATUS_ERROR_MUTEX_UNLOCK else (body (s.emit (.lock lk))).2)) :
    motive (withMutex D s lk ul body) := by
  unfold withMutex
  split
  · split
    · exact refused ‹_›
    · simp only
      split <;> simpa [*] using locked (Decidable.of_not_not ‹_›)
  · exact plain

/-- `P` holds up to the body, `Q` from the body on. -/
theorem withMutex_inv {P Q : St → Prop} (D : Desc) (s : St) (lk ul : Int) (body : St → St × Int)
    (weaken : ∀ a, P a → Q a)
    (lock : ∀ a r, P a → P (a.emit (.lock r))) (unlock : ∀ a r, Q a → Q (a.emit (.unlock r)))
    (hbody : ∀ a, P a → Q (body a).1) (h : P s) : Q (withMutex D s lk ul body).1 :=
  withMutex_cases (motive := fun r => Q r.1) D s lk ul body (hbody s h) (fun _ => weaken _ (lock s lk h))
    (fun _ => unlock _ ul (hbody _ (lock s lk h)))

/-- what a flag change keeps of the descriptor: the geometry and the variables -/
structure DescEq (D D' : Desc) : Prop where
  bufSize : D'.bufSize = D.bufSize
  unsBuf : D'.unsBuf = D.unsBuf
  cap : D'.cap = D.cap
  num : D'.commandsNum = D.commandsNum
  vars : ∀ id, (D'.cmdD id).vars = (D.cmdD id).vars

theorem modifyCmdInGroups_lengths (fn : CmdD → CmdD) : ∀ (gs : List GroupD) (i : Nat),
    (modifyCmdInGroups fn gs i).map (·.cmds.length) = gs.map (·.cmds.length) := by
  intro gs
  induction gs with
  | nil => intro i; rfl
  | cons g r ih =>
    intro i
    simp only [modifyCmdInGroups]
    split
    · simp [ih]
    · simp

theorem cmdByIndex_modify (fn : CmdD → CmdD) (hv : ∀ c, (fn c).vars = c.vars) : ∀ (gs : List GroupD) (i j : Nat),
    ((cmdByIndex (modifyCmdInGroups fn gs i) j).getD default).vars = ((cmdByIndex gs j).getD default).vars := by
  intro gs
  induction gs with
  | nil => intro i j; rfl
  | cons g r ih =>
    intro i j
    simp only [modifyCmdInGroups]
    split
    · simp only [cmdByIndex]
      split
      · exact ih _ _
      · rfl
    · simp only [cmdByIndex, List.length_modify]
      split
      · rfl
      · rename_i hj
        simp only [List.getElem?_modify]
        split
        · rename_i e
          subst e
          cases hg : g.cmds[i]? with
          | none => simp
          | some c => simp [hv]
        · simp

theorem modifyCmd_cap (D : Desc) (id : Nat) (fn : CmdD → CmdD) : (D.modifyCmd id fn).cap = D.cap := by
  unfold Desc.modifyCmd; split <;> rfl

theorem modifyCmd_eq (D : Desc) (id : Nat) (fn : CmdD → CmdD) (hv : ∀ c, (fn c).vars = c.vars) : DescEq D (D.modifyCmd id fn) := by
  have hn : (D.modifyCmd id fn).commandsNum = D.commandsNum := by
    unfold Desc.modifyCmd Desc.commandsNum
    split
    · simp [modifyCmdInGroups_lengths]
    · rfl
  refine ⟨?_, ?_, modifyCmd_cap D id fn, hn, ?_⟩
  · unfold Desc.modifyCmd; split <;> rfl
  · unfold Desc.modifyCmd; split <;> rfl
  · intro oid
    cases oid with
    | none => rfl
    | some k =>
      simp only [Desc.cmdD, Desc.cmd?, hn]
      unfold Desc.modifyCmd
      split
      · split
        · simp only []
          rw [cmdByIndex_modify fn hv]
        · rfl
      · split
        · rfl
        · simp only [List.getElem?_modify]
          split
          · rename_i e
            cases hg : D.extras[id - D.commandsNum]? with
            | none => simp [← e, hg]
            | some c => simp [← e, hg, hv]
          · simp

theorem groupsModify_shape (f : GroupD → GroupD) (hf : ∀ x, (f x).cmds = x.cmds) : ∀ (gs : List GroupD) (g : Nat),
    (∀ j, cmdByIndex (gs.modify g f) j = cmdByIndex gs j) ∧
    (gs.modify g f).map (·.cmds.length) = gs.map (·.cmds.length) := by
  intro gs
  induction gs with
  | nil => intro g; simp
  | cons x r ih =>
    intro g
    cases g with
    | zero =>
      simp only [List.modify_zero_cons]
      exact ⟨fun j => by simp [cmdByIndex, hf], by simp [hf]⟩
    | succ k =>
      simp only [List.modify_succ_cons]
      exact ⟨fun j => by simp [cmdByIndex, (ih k).1], by simp [(ih k).2]⟩

theorem groupDisable_eq (D : Desc) (g : Nat) (v : Bool) :
    DescEq D { D with groups := D.groups.modify g (fun x => { x with disable := v }) } := by
  have sh := groupsModify_shape (fun x => { x with disable := v }) (fun _ => rfl) D.groups g
  have hn : ({ D with groups := D.groups.modify g (fun x => { x with disable := v }) } : Desc).commandsNum = D.commandsNum := by
    simp [Desc.commandsNum, sh.2]
  refine ⟨rfl, rfl, rfl, hn, ?_⟩
  intro oid
  cases oid with
  | none => rfl
  | some k => simp only [Desc.cmdD, Desc.cmd?, hn, sh.1]

/-- **One API call.**  `P` is what holds before the body of the call runs, `Q` what holds after it (`P = Q` for a plain
invariant: `apply_keeps`).  The hypotheses on `serviceBody` and `pushUnsolicited` know which operation they belong to,
so that a side condition on `op` (`OpOk`, `OpQ`) reaches them.  The log is that of one call (`apply` clears it first), so
what speaks of a whole history needs an accumulator beside the state: `acksIn`/`linesBegun` (`Proofs/LineHist.lean`) and the
`acc` of `Acct` (`Proofs/UnitsHist.lean`) are the two patterns. -/
theorem apply_inv {P Q : World → Prop} (w : World) (op : Op)
    (weaken : ∀ a, P a → Q a)
    (lock : ∀ a r, P a → P { a with s := a.s.emit (.lock r) })
    (unlock : ∀ a r, Q a → Q { a with s := a.s.emit (.unlock r) })
    (svc : ∀ i, op = .service i → ∀ a, P a → Q { a with s := (serviceBody a.D a.s i).1 })
    (push : ∀ c t lk ul, op = .trigger c t lk ul → ∀ a, P a → Q { a with s := (pushUnsolicited a.D a.s c (cmdTypeOfInt t)).1 })
    (exit : ∀ st a, P a → Q { a with s := (holdExit a.s st).1 })
    (flag : ∀ a D', DescEq a.D D' → P a → Q { a with D := D' })
    (poke : ∀ a slot off bs, off + bs.length ≤ (a.s.slotGet slot).length → P a →
      Q { a with s := { a.s with mem := a.s.mem.set slot ((a.s.slotGet slot).take off ++ bs ++ (a.s.slotGet slot).drop (off + bs.length)) } })
    (h : P { w with s := { w.s with log := [] } }) : Q (apply w op).1 := by
  have br : ∀ (lk ul : Int) (body : St → St × Int), (∀ s, P ⟨w.D, s⟩ → Q ⟨w.D, (body s).1⟩) →
      Q ⟨w.D, (withMutex w.D { w.s with log := [] } lk ul body).1⟩ := fun lk ul body hb =>
    withMutex_inv (P := fun s => P ⟨w.D, s⟩) (Q := fun s => Q ⟨w.D, s⟩) w.D _ lk ul body
      (fun s => weaken ⟨w.D, s⟩) (fun s => lock ⟨w.D, s⟩) (fun s => unlock ⟨w.D, s⟩) hb h
  cases op with
  | service i => exact br i.lock i.unlock _ (fun s => svc i rfl ⟨w.D, s⟩)
  | isBusy lk ul => exact br lk ul isBusyBody (fun s => weaken ⟨w.D, s⟩)
  | isHold lk ul => exact br lk ul isHoldBody (fun s => weaken ⟨w.D, s⟩)
  | isFull lk ul => exact br lk ul (isFullBody w.D) (fun s => weaken ⟨w.D, s⟩)
  | trigger c t lk ul => exact br lk ul _ (fun s => push c t lk ul rfl ⟨w.D, s⟩)
  | holdExit st lk ul => exact br lk ul _ (fun s => exit st ⟨w.D, s⟩)
  | buffered c t => exact weaken _ h
  | setCmdDisable c v => exact flag ⟨w.D, _⟩ _ (modifyCmd_eq w.D c (fun x => { x with disable := v }) (fun _ => rfl)) h
  | setCmdOnlyTest c v => exact flag ⟨w.D, _⟩ _ (modifyCmd_eq w.D c (fun x => { x with onlyTest := v }) (fun _ => rfl)) h
  | setGroupDisable g v => exact flag ⟨w.D, _⟩ _ (groupDisable_eq w.D g v) h
  | poke slot off bs =>
    simp only [apply]
    split
    · exact poke _ slot off bs ‹_› h
    · exact weaken _ h

theorem apply_keeps {I : World → Prop} (w : World) (op : Op)
    (lock : ∀ a r, I a → I { a with s := a.s.emit (.lock r) })
    (unlock : ∀ a r, I a → I { a with s := a.s.emit (.unlock r) })
    (svc : ∀ i, op = .service i → ∀ a, I a → I { a with s := (serviceBody a.D a.s i).1 })
    (push : ∀ c t lk ul, op = .trigger c t lk ul → ∀ a, I a → I { a with s := (pushUnsolicited a.D a.s c (cmdTypeOfInt t)).1 })
    (exit : ∀ st a, I a → I { a with s := (holdExit a.s st).1 })
    (flag : ∀ a D', DescEq a.D D' → I a → I { a with D := D' })
    (poke : ∀ a slot off bs, off + bs.length ≤ (a.s.slotGet slot).length → I a →
      I { a with s := { a.s with mem := a.s.mem.set slot ((a.s.slotGet slot).take off ++ bs ++ (a.s.slotGet slot).drop (off + bs.length)) } })
    (h : I { w with s := { w.s with log := [] } }) : I (apply w op).1 :=
  apply_inv w op (fun _ h => h) lock unlock svc push exit flag poke h

theorem runOps_cons (w : World) (op : Op) (r : List Op) :
    runOps w (op :: r) = ((runOps (apply w op).1 r).1, ((apply w op).2, (apply w op).1.s.log) :: (runOps (apply w op).1 r).2) := rfl

theorem runOps_append (a b : List Op) : ∀ w : World,
    runOps w (a ++ b) = ((runOps (runOps w a).1 b).1, (runOps w a).2 ++ (runOps (runOps w a).1 b).2) := by
  induction a with
  | nil => intro w; simp [runOps]
  | cons op r ih =>
    intro w
    simp only [List.cons_append, runOps_cons, ih, List.cons_append]

theorem runOps_inv {I : World → Prop} {ok : Op → Prop} (step : ∀ w op, ok op → I w → I (apply w op).1) :
    ∀ (ops : List Op) (w : World), (∀ op ∈ ops, ok op) → I w → I (runOps w ops).1 := by
  intro ops
  induction ops with
  | nil => intro w _ h; exact h
  | cons op r ih =>
    intro w hok h
    exact ih (apply w op).1 (fun o ho => hok o (List.mem_cons_of_mem _ ho)) (step w op (hok op List.mem_cons_self) h)

end Cat
