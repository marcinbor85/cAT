/-
  The merged output stream (C11): everything `io->write` has accepted from either machine, in the order of the calls, is a
  sequence of whole units followed by the part already sent of the one unit in progress.  The accounting of one machine
  (`TraceF`) takes the accumulated output as a parameter, so it holds of the merged stream while the other machine is
  silent, which the exclusion invariant `FlushExcl` provides; a unit waiting in FLUSH_IO_WRITE_WAIT is not counted until it
  starts (`PendF`).  `MInvF` states this for machine `f`, `MInv` in the two machines' own vocabularies.
-/
import CatVerif.Proofs.UnitsU
namespace Cat
open St

/-- bytes of either machine accepted by `write`, in log order -/
def outM (l : List Ev) : List Byte :=
  l.filterMap (fun e => match e with
    | .wr _ b true _ => some b
    | _ => none)

@[simp] theorem outM_append (a b : List Ev) : outM (a ++ b) = outM a ++ outM b := by simp [outM]

theorem filterMap_congr_mem {α β : Type} {g h : α → Option β} : ∀ l : List α, (∀ e ∈ l, g e = h e) → l.filterMap g = l.filterMap h
  | [], _ => rfl
  | e :: t, H => by
    simp only [List.filterMap_cons, H e (by simp), filterMap_congr_mem t (fun x hx => H x (by simp [hx]))]

theorem outM_eq (f : Fsm) (l : List Ev) (h : outF f.other l = []) : outM l = outF f l := by
  simp only [outF, List.filterMap_eq_nil_iff] at h
  refine filterMap_congr_mem l (fun e he => ?_)
  have := h e he
  cases e with
  | wr g b a p => cases f <;> cases g <;> cases a <;> first | rfl | simp [Fsm.other] at this
  | _ => rfl

/-- a waiting unit of the unsolicited machine is whole but for the closing line break, which is chosen later -/
def PendU (D : Desc) (s : St) : Prop :=
  s.ustate = .flushWait →
    (OpenU s ∧ ∃ a, IsNl a ∧ remU D s = a ++ payloadU D s) ∨ (¬ OpenU s ∧ UnitShape (remU D s))

def PendC (D : Desc) (s : St) : Prop := s.state = .flushWait → UnitShape (remC D s)

def TraceC (D : Desc) (acc : List Byte) (s : St) : Prop :=
  ∃ us : List (List Byte), (∀ u ∈ us, UnitShape u) ∧ acc ++ remC D s = us.flatten

/-- the invariant of the merged stream: `acc` = everything accepted so far from either machine -/
structure MInv (D : Desc) (acc : List Byte) (s : St) : Prop where
  cw : s.state = .flushWrite → TraceC D acc s
  uw : s.ustate = .flushWrite → TraceU D acc s
  idle : s.state ≠ .flushWrite → s.ustate ≠ .flushWrite →
    ∃ us : List (List Byte), (∀ u ∈ us, UnitShape u) ∧ acc = us.flatten
  pc : PendC D s
  pu : PendU D s

/-- `MInv` for machine `f`, whichever it is: the machine that is writing accounts for the merged stream -/
structure MInvF (D : Desc) (acc : List Byte) (s : St) : Prop where
  w : ∀ f, s.writing f → TraceF D acc s f
  idle : (∀ f, ¬ s.writing f) → Whole acc
  p : ∀ f, PendF D s f

theorem writing_unique {s : St} (ex : FlushExcl s) {f g : Fsm} (hf : s.writing f) (hg : s.writing g) : g = f := by
  cases f <;> cases g
  · rfl
  · exact absurd ⟨hf, hg⟩ ex
  · exact absurd ⟨hg, hf⟩ ex
  · rfl

structure MergedInv (D : Desc) (acc : List Byte) (s : St) : Prop where
  buf : BufLen D s .uns
  ok : ∀ f, FlushOkF D s f
  ex : FlushExcl s
  m : MInvF D acc s

theorem serviceBody_merged {D : Desc} (s : St) (i : SvcIn) (acc : List Byte) (hu : i.hu.ret ≠ 4)
    (w : Wf D s) (ub : UbAll D s) (o : OobAll D s) (hlc : tr .wrC s.log = []) (hlu : tr .wrU s.log = [])
    (x : MergedInv D acc s) :
    MergedInv D (acc ++ outM (serviceBody D s i).1.log) (serviceBody D s i).1 := by
  obtain ⟨hb, fo, ex, m⟩ := x
  have hb' := (serviceBody_unitStep s .uns i hu w ub o hb (fo .uns)).2
  have st : ∀ f, UnitStep D f s (serviceBody D s i).1 := fun f =>
    (serviceBody_unitStep s f i hu w ub o (by cases f; exact w.buf; exact hb) (fo f)).1
  have ex' := serviceBody_flushExcl D s i ex
  have o0 : ∀ f, outF f s.log = [] := fun f => outF_noWr f _ hlc hlu
  generalize (serviceBody D s i).1 = s' at st ex' hb'
  refine ⟨hb', fun f => (st f).ok, ex', ?_⟩
  -- a unit that was waiting and still is, or one started in this call
  have pend : ∀ g, ¬ s.writing g → PendF D s' g := fun g hg => by
    by_cases hwt : s.waiting g
    · exact ((st g).waits hwt).pend (fun _ => hwt) (m.p g)
    · exact (st g).pend (fun h => ((ph_flush_iff s g).1 h).elim hwt hg)
  -- a machine that was waiting takes over behind whole units
  have takes : ∀ g, s.waiting g → Whole (acc ++ outM s'.log) → TraceF D (acc ++ outM s'.log) s' g :=
    fun g hg ha => ((st g).waits hg).trace ((m.p g).start hg ha)
  by_cases hW : ∃ f, s.writing f
  · -- machine `f` is sending; the other one gets nothing accepted
    obtain ⟨f, hf⟩ := hW
    have hg : ¬ s.writing f.other := fun h => by have := writing_unique ex hf h; cases f <;> cases this
    have e : outM s'.log = outF f s'.log := outM_eq f _ (by rw [(st f.other).quiet hg, o0])
    have T' := (st f).trace acc (by rw [o0, List.append_nil]; exact m.w f hf)
    rw [e] at takes ⊢
    have fin : ¬ s'.writing f → Whole (acc ++ outF f s'.log) :=
      fun h => (traceF_idle (fun hp => ((ph_flush_iff s' f).1 hp).elim ((st f).ends hf) h)).1 T'
    refine ⟨fun g hg' => ?_, fun h => fin (h f), fun g => ?_⟩
    · rcases (st g).starts hg' with x | x
      · cases writing_unique ex hf x; exact T'
      · exact takes g x (fin (fun h => by cases writing_unique ex' hg' h; exact not_waiting_of_writing hf x))
    · by_cases x : s.writing g
      · exact fun w => absurd w ((st g).ends x)
      · exact pend g x
  · have hW' : ∀ f, ¬ s.writing f := fun f h => hW ⟨f, h⟩
    have e : outM s'.log = [] := by
      rw [outM_eq .cmd _ (by show outF .uns s'.log = []; rw [(st .uns).quiet (hW' .uns), o0]), (st .cmd).quiet (hW' .cmd), o0]
    rw [e, List.append_nil] at takes ⊢
    refine ⟨fun g hg' => ?_, fun _ => m.idle hW', fun g => pend g (hW' g)⟩
    rcases (st g).starts hg' with x | x
    · exact absurd x (hW' g)
    · exact takes g x (m.idle hW')

theorem Still.states {s s' : St} (h : Still s s') (f : Fsm) : (s'.writing f ↔ s.writing f) ∧ (s'.waiting f ↔ s.waiting f) := by
  have c := h.1.c
  have u := h.1.u
  cases f <;> simp [St.writing, St.waiting, c, u]

theorem mergedAcct : Acct outM MergedInv where
  app := outM_append
  noWr l hc hu := by rw [outM_eq .cmd l (outF_noWr .uns l hc hu)]; exact outF_noWr .cmd l hc hu
  still h x :=
    ⟨x.buf.lengths (by rw [h.1.b.1]) (by rw [h.1.b.2]), fun f => h.unitSame.ok (x.ok f),
     fun e => x.ex ⟨(h.states .cmd).1.1 e.1, (h.states .uns).1.1 e.2⟩,
     fun f hf => h.unitSame.trace (x.m.w f ((h.states f).1.1 hf)), fun hn => x.m.idle (fun f hf => hn f ((h.states f).1.2 hf)),
     fun f => h.unitSame.pend (h.states f).2.1 (x.m.p f)⟩
  desc de x :=
    ⟨de.bufLen x.buf, fun f => (de.unitSame _ f).ok (x.ok f), x.ex,
     fun f hf => (de.unitSame _ f).trace (x.m.w f hf), x.m.idle, fun f => (de.unitSame _ f).pend id (x.m.p f)⟩
  body i hu w ub o hc hu' x := serviceBody_merged _ i _ hu w ub o hc hu' x

/-- all bytes accepted by `io->write` during a history, from either machine, in order -/
def outAllM (tr : List (Int × List Ev)) : List Byte := (tr.map (fun x => outM x.2)).flatten

/-- **The merged output is a sequence of whole units**, over any history. -/
theorem runOps_merged (ops : List Op) (w : World) (acc : List Byte) (hok : ∀ op ∈ ops, OpOk op) (g : Good w)
    (m : MergedInv w.D acc w.s) : MergedInv (runOps w ops).1.D (acc ++ outAllM (runOps w ops).2) (runOps w ops).1.s :=
  mergedAcct.history ops w acc hok g m

theorem MergedInv.minv {D : Desc} {acc : List Byte} {s : St} (x : MergedInv D acc s) : MInv D acc s := by
  refine ⟨fun h => (x.m.w .cmd h).cmd (x.ok .cmd), fun h => (x.m.w .uns h).uns (x.ok .uns),
    fun h1 h2 => x.m.idle (fun f => by cases f; exact h1; exact h2), fun hw => ?_, fun hw => ?_⟩
  · rcases x.m.p .cmd hw with ⟨o, a, ha, e⟩ | ⟨o, sh⟩
    · rw [(remC_remF (x.ok .cmd)).1 o, e]; exact unit_framed D s .cmd ha
    · rw [(remC_remF (x.ok .cmd)).2 o]; exact sh
  · rw [remU_eq (x.ok .uns), openU_iff]
    exact x.m.p .uns hw

end Cat
