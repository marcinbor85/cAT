/-
  Translator item T6: the states in which the model's command machine takes input (`Reading`) are
  exactly the states whose C function starts with the guarded call
  `if (read_cmd_char(self) == 0) return CAT_STATUS_OK;` (no other function calls `read_cmd_char`,
  none calls `io->read` directly), and the only state of either machine whose C function calls
  `io->write` is FLUSH_IO_WRITE — the premises of the stutter theorems of C12 and of the writer
  theorems of C11.  The lists are regenerated from the call sites in `src/cat.c` on every run
  (`Gen/Dispatch.lean`), so giving another state's function a read or a write breaks these.
-/
import CatVerif.Gen.Dispatch
import CatVerif.Proofs.Step
namespace Cat

/-- the model reads input in exactly the states whose C function calls `read_cmd_char` -/
theorem reading_generated (st : CState) : Reading st ↔ st ∈ Gen.readingStates := by
  -- the same seven states in another order
  simp only [Reading, Gen.readingStates, List.mem_cons, List.mem_nil_iff, false_or, or_comm, or_left_comm]

/-- `io->write` is called from FLUSH_IO_WRITE of either machine and from nowhere else -/
theorem writing_generated : Gen.writingStates = [.flushWrite] ∧ Gen.uwritingStates = [.flushWrite] := ⟨rfl, rfl⟩

end Cat
