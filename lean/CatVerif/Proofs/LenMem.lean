/-
  Slot lengths of the variable storage never change (C03): stores replace bytes in place (`slotWrite_ctl`, `poke_lenE`).
  Here the helpers that do not touch variable storage at all; for whole steps see `commandService_lenE` and
  `unsolicitedEventsService_lenE`.
-/
import CatVerif.Proofs.Step
namespace Cat
open St

theorem setB_len (D : Desc) (s : St) (f : Fsm) (i v : Nat) : LenE s (setB D s f i v) := by simp
theorem writeB_len (D : Desc) (f : Fsm) (bs : List Byte) (s : St) (i : Nat) : LenE s (writeB D s f i bs) := by simp
theorem setCmdState_LE (D : Desc) (s : St) (i v : Nat) : LenE s (setCmdState D s i v) := by simp
theorem strncpyC_LE (D : Desc) (s : St) (str : List Byte) : LenE s (strncpyC D s str) := by simp
theorem setIdx_len (s : St) (f : Fsm) (n : Nat) : LenE s (s.setIdx f n) := by simp
theorem startFlush_cmd_LE (s : St) (a : After) : LenE s (startFlush s .cmd a) := by simp
theorem setStateRL_cmd_LE (s : St) : LenE s (setStateRL s .cmd) := by simp
theorem setStateTL_cmd_LE (s : St) : LenE s (setStateTL s .cmd) := by simp

theorem printN_len (D : Desc) (s : St) (str : List Byte) :
    LenE s (printN D s .cmd str).1 ∧ LenE s (printN D s .uns str).1 := by simp
theorem printAll_len (D : Desc) (xs : List (List Byte)) : ∀ s : St,
    LenE s (printAll D s .cmd xs).1 ∧ LenE s (printAll D s .uns xs).1 := by simp
theorem printHexBytes_len (D : Desc) (wo : Bool) (bs : List Byte) : ∀ s : St,
    LenE s (printHexBytes D .cmd wo s bs).1 ∧ LenE s (printHexBytes D .uns wo s bs).1 := by simp
theorem formatIntDecimal_len (D : Desc) (s : St) (v : VarD) :
    LenE s (formatIntDecimal D s .cmd v).1 ∧ LenE s (formatIntDecimal D s .uns v).1 := by simp
theorem formatUIntDecimal_len (D : Desc) (s : St) (v : VarD) :
    LenE s (formatUIntDecimal D s .cmd v).1 ∧ LenE s (formatUIntDecimal D s .uns v).1 := by simp
theorem formatNumHexadecimal_len (D : Desc) (s : St) (v : VarD) :
    LenE s (formatNumHexadecimal D s .cmd v).1 ∧ LenE s (formatNumHexadecimal D s .uns v).1 := by simp
theorem formatBufferHexadecimal_len (D : Desc) (s : St) (v : VarD) :
    LenE s (formatBufferHexadecimal D s .cmd v).1 ∧ LenE s (formatBufferHexadecimal D s .uns v).1 := by simp
theorem formatBufferString_len (D : Desc) (s : St) (v : VarD) :
    LenE s (formatBufferString D s .cmd v).1 ∧ LenE s (formatBufferString D s .uns v).1 := by simp
theorem formatInfoType_len (D : Desc) (s : St) (v : VarD) :
    LenE s (formatInfoType D s .cmd v).1 ∧ LenE s (formatInfoType D s .uns v).1 := by simp

end Cat
