/-
  No out-of-bounds access along any history of API calls (C03): from `cat_init` with a well-formed
  descriptor (`DescOk`), storage blocks at least `data_size` long (`MemOk`) and a working buffer
  of the declared size, the `oob` flag stays false whatever arrives on the input, whatever the
  handlers answer (`OpOk`: no HOLD from a handler the unsolicited machine runs) and whatever API
  calls are made in between.
-/
import CatVerif.Proofs.NoOob
import CatVerif.Proofs.NoUbHist
namespace Cat
open St

/-- the cursor conditions of both machines and the condition on the command machine's argument text -/
structure OobAll (D : Desc) (s : St) : Prop where
  c : OobF D s .cmd
  a : OobA D s
  u : OobF D s .uns

theorem Wf.step {D : Desc} {s s' : St} (w : Wf D s) (hl : LenE s s') (hr : RingInv D s') (hb : s'.buf.length = s.buf.length) : Wf D s' :=
  ⟨w.desc, w.mem.len (.of_lenE hl), hr, by have := w.buf; unfold BufOk at *; omega⟩

theorem serviceBody_oob {D : Desc} (s : St) (i : SvcIn) (hu : i.hu.ret ≠ 4)
    (w : Wf D s) (ub : UbAll D s) (o : OobAll D s) :
    (serviceBody D s i).1.oob = s.oob ∧ Wf D (serviceBody D s i).1 ∧ OobAll D (serviceBody D s i).1 := by
  -- the unsolicited machine's step leaves the command machine, its region and what is asked of it as they are
  have us := unsolicitedEventsService_oob s i w ub.2 o.u
  have kc := unsolicitedEventsService_keepsC D s i hu
  have kr := unsolicitedEventsService_keepsCR D s i
  have w1 : Wf D (unsolicitedEventsService D s i).1 :=
    w.step (unsolicitedEventsService_lenE D s i) (unsolicitedEventsService_ring D s i w.ring) kr.2.1
  unfold serviceBody
  simp only
  generalize (unsolicitedEventsService D s i).1 = s1 at us kc kr w1 ⊢
  have kc : KeepsC s s1 := ⟨kc.1, kc.2.1⟩
  -- and the command machine's step the unsolicited machine
  have cs := commandService_oob s1 i w1 (ub.1.of_keepsC kc) (o.c.of_keepsC kc kr) (o.a.of_keepsC kc kr)
  have w2 : Wf D (commandService D s1 i).1 :=
    w1.step (commandService_lenE D s1 i) (commandService_ring D s1 i w1.ring) (commandService_keepsUR D s1 i).2.2
  exact ⟨cs.1.trans us.1, w2, cs.2.1, cs.2.2, us.2.of_keepsU (commandService_keepsU D s1 i) (commandService_keepsUR D s1 i)⟩

theorem Still.emit (s : St) (e : Ev) : Still s (s.emit e) := ⟨Calm.emit s e, rfl, rfl⟩
theorem Still.clear (s : St) : Still s { s with log := [] } := ⟨⟨by simp, by simp, by simp, by simp⟩, rfl, rfl⟩

theorem Still.push {D : Desc} {s : St} (hr : RingInv D s) (c : Nat) (t : CmdType) : Still s (pushUnsolicited D s c t).1 :=
  ⟨⟨by simp, by simp, by simp, by simp⟩, by simp, pushUnsolicited_oob D s c t hr⟩

theorem Still.exit (s : St) (st : Int) : Still s (holdExit s st).1 := ⟨⟨by simp, by simp, by simp, by simp⟩, by simp, by simp⟩

theorem Still.poke (s : St) (slot off : Nat) (bs : List Byte) (h : off + bs.length ≤ (s.slotGet slot).length) :
    Still s { s with mem := s.mem.set slot ((s.slotGet slot).take off ++ bs ++ (s.slotGet slot).drop (off + bs.length)) } :=
  ⟨⟨by simp, by simp, by simp, by simp⟩, poke_lenE s slot off bs h, rfl⟩

theorem Calm.ubAll {D : Desc} {s s' : St} (h : Calm s s') (u : UbAll D s) : UbAll D s' :=
  ⟨u.1.of_keepsC ⟨h.c, h.p.1⟩, u.2.of_keepsU ⟨h.u, h.p.2⟩⟩

theorem DescEq.capOf {D D' : Desc} (h : DescEq D D') (f : Fsm) : D'.capOf f = D.capOf f := by
  cases f <;> simp [Desc.capOf, Desc.cmdCap, Desc.unsCap, h.bufSize, h.unsBuf]

theorem DescEq.getB {D D' : Desc} (h : DescEq D D') (s : St) (f : Fsm) (n : Nat) : getB D' s f n = getB D s f n := by
  cases f <;> simp [St.getB, Desc.unsBase, h.bufSize, h.unsBuf]

theorem DescEq.hasNul {D D' : Desc} (h : DescEq D D') {s : St} {f : Fsm} {p : Nat} (hn : HasNul D s f p) : HasNul D' s f p := by
  obtain ⟨n, a, b, c⟩ := hn
  exact ⟨n, a, by rw [h.capOf]; exact b, by rw [h.getB]; exact c⟩

theorem DescEq.oobF {D D' : Desc} (h : DescEq D D') {s : St} {f : Fsm} (o : OobF D s f) : OobF D' s f :=
  ⟨fun a b => h.hasNul (o.main a b), o.nl, fun a b => h.hasNul (o.first a b),
   fun a => h.hasNul (o.loop a), o.wait, o.wsle⟩

/-- The invariant of reachable worlds: C03 proves it of every history from `cat_init` (`init_good`, `runOps_noOob`), the
histories of C11 start from it, the liveness of C15 from `Live`.  The layers: `DescOk` (the descriptor) ⊂ `Wf` (with storage,
buffer and ring) ⊂ `Good` (with what the two no-fault proofs maintain) ⊂ `Live` (no command on hold, `Proofs/Live.lean`). -/
structure Good (w : World) : Prop where
  num : 0 < w.D.commandsNum
  wf : Wf w.D w.s
  ub : UbAll w.D w.s
  oob : OobAll w.D w.s

theorem init_good (D : Desc) (buf ubuf : List Byte) (mem : List (List Byte))
    (hn : 0 < D.commandsNum) (hc : 0 < D.cap) (hd : DescOk D) (hb : D.cmdCap ≤ buf.length)
    (hm : ∀ id, ∀ v ∈ (D.cmdD id).vars.getD [], v.dataSize ≤ (mem.getD v.slot []).length) :
    Good ⟨D, init D buf ubuf mem⟩ := by
  refine ⟨hn, ⟨hd, ?_, init_ringInv D buf ubuf mem hc, ?_⟩, init_ubAll D buf ubuf mem, ⟨.other ?_, .other ?_, .other ?_⟩⟩
  · intro id v hv; simpa [init, St.slotGet] using hm id v hv
  · simpa [BufOk, init] using hb
  · simp [init, St.ph, CState.ph]
  · simp [init]
  · simp [init, St.ph, UState.ph]

theorem Good.still {a : World} {s' : St} (h : Still a.s s') (hr : RingInv a.D s') (g : Good a) : Good ⟨a.D, s'⟩ :=
  ⟨g.num, g.wf.step h.2.1 hr (by rw [h.1.b.1]), h.1.ubAll g.ub,
    ⟨h.1.oobF g.oob.c, g.oob.a.of_keepsC ⟨h.1.c, h.1.p.1⟩ (by simp [h.1.b.1, h.1.b.2]), h.1.oobF g.oob.u⟩⟩

theorem Good.desc {a : World} {D' : Desc} (de : DescEq a.D D') (g : Good a) : Good ⟨D', a.s⟩ := by
  obtain ⟨num, w, ub, o⟩ := g
  have hc : D'.cmdCap = a.D.cmdCap := de.capOf .cmd
  refine ⟨de.num ▸ num, ⟨⟨by rw [de.num, hc]; exact w.desc.lanes, by rw [hc]; exact w.desc.ack,
      fun id v hv => w.desc.vars id v (by rw [← de.vars]; exact hv)⟩,
    fun id v hv => w.mem id v (by rw [← de.vars]; exact hv),
    w.ring.cap de.cap,
    by have := w.buf; unfold BufOk at *; rw [hc]; exact this⟩,
    ⟨ub.1.desc de.same, ub.2.desc de.same⟩, ⟨de.oobF o.c, ⟨fun x => ?_, fun x => de.hasNul (o.a.wargs x)⟩, de.oobF o.u⟩⟩
  have := o.a.args x
  exact ⟨by rw [hc]; exact this.1, by rw [de.getB]; exact this.2⟩

theorem serviceBody_good {a : World} (i : SvcIn) (hu : i.hu.ret ≠ 4) (g : Good a) :
    (serviceBody a.D a.s i).1.oob = a.s.oob ∧ Good ⟨a.D, (serviceBody a.D a.s i).1⟩ :=
  have b := serviceBody_oob a.s i hu g.wf g.ub g.oob
  ⟨b.1, g.num, b.2.1, (serviceBody_noUb a.D a.s i hu g.num g.ub).2, b.2.2⟩

/-- **One API call, for predicates that read nothing a `Still` step changes.**  Apart from the body
of `cat_service` and the flag changes, every move of `apply` is a `Still` step that keeps the ring
invariant and adds at most lock and unlock events to the log.  `P`, `Q` as in `apply_inv`. -/
theorem apply_inv_still {P Q : World → Prop} (w : World) (op : Op)
    (weaken : ∀ a, P a → Q a)
    (ring : ∀ a, P a → RingInv a.D a.s)
    (still : ∀ a s', Still a.s s' → RingInv a.D s' → (∀ c, c ≠ .mutex → tr c s'.log = tr c a.s.log) → P a → P ⟨a.D, s'⟩)
    (unlock : ∀ a r, Q a → Q { a with s := a.s.emit (.unlock r) })
    (svc : ∀ i, op = .service i → ∀ a, P a → Q { a with s := (serviceBody a.D a.s i).1 })
    (flag : ∀ a D', DescEq a.D D' → P a → Q { a with D := D' })
    (h : P { w with s := { w.s with log := [] } }) : Q (apply w op).1 :=
  apply_inv w op weaken
    (lock := fun a r h => still a _ (.emit _ _) ((ring a h).congr (by simp)) (fun c hc => by simp [cls, hc]) h)
    unlock svc
    (push := fun c t _ _ _ a h => weaken _ (still a _ (.push (ring a h) c _) (pushUnsolicited_ring a.D a.s c _ (ring a h))
      (fun _ _ => by simp) h))
    (exit := fun st a h => weaken _ (still a _ (.exit _ st) ((ring a h).congr (by simp))
      (fun _ _ => by simp) h))
    flag
    (poke := fun a slot off bs hb h => weaken _ (still a _ (.poke _ slot off bs hb) ((ring a h).congr (by simp)) (fun _ _ => rfl) h))
    h

theorem apply_keeps_still {I : World → Prop} (w : World) (op : Op)
    (ring : ∀ a, I a → RingInv a.D a.s)
    (still : ∀ a s', Still a.s s' → RingInv a.D s' → (∀ c, c ≠ .mutex → tr c s'.log = tr c a.s.log) → I a → I ⟨a.D, s'⟩)
    (svc : ∀ i, op = .service i → ∀ a, I a → I { a with s := (serviceBody a.D a.s i).1 })
    (flag : ∀ a D', DescEq a.D D' → I a → I { a with D := D' })
    (h : I { w with s := { w.s with log := [] } }) : I (apply w op).1 :=
  apply_inv_still w op (fun _ h => h) ring still
    (fun a r h => still a _ (.emit _ _) ((ring a h).congr (by simp)) (fun c hc => by simp [cls, hc]) h)
    svc flag h

theorem apply_good (w : World) (op : Op) (hop : OpOk op) (g : Good w) :
    (apply w op).1.s.oob = w.s.oob ∧ Good (apply w op).1 :=
  apply_keeps_still (I := fun a => a.s.oob = w.s.oob ∧ Good a) w op (ring := fun _ h => h.2.wf.ring)
    (still := fun _ _ st hr _ h => ⟨st.2.2.trans h.1, h.2.still st hr⟩)
    (svc := fun i e a h => by
      subst e
      exact ⟨(serviceBody_good i hop h.2).1.trans h.1, (serviceBody_good i hop h.2).2⟩)
    (flag := fun _ _ de h => ⟨h.1, h.2.desc de⟩)
    ⟨rfl, g.still (.clear _) (g.wf.ring.congr (by simp))⟩

/-- **Along every history no access outside its object is performed.** -/
theorem runOps_noOob (ops : List Op) (w : World) (hok : ∀ op ∈ ops, OpOk op) (g : Good w) :
    (runOps w ops).1.s.oob = w.s.oob ∧ Good (runOps w ops).1 :=
  runOps_inv (I := fun a => a.s.oob = w.s.oob ∧ Good a)
    (fun a op hop h => ⟨(apply_good a op hop h.2).1.trans h.1, (apply_good a op hop h.2).2⟩) ops w hok ⟨rfl, g⟩

end Cat
