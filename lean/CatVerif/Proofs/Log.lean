/-
  Event classes and traces.  `tr c l` is the sub-list of `l` of events of class `c`; a function that
  appends no event of class `c` leaves `tr c` unchanged (`Quiet`).  Which classes each function of
  the model can log is part of its frame lemma (`Proofs/Frame.lean` … `Proofs/StepU.lean`).
-/
import CatVerif.Model.Api
namespace Cat
open St

inductive Cls | mutex | rd | wrC | wrU | cbC | cbU | nested | ack | flC | flU | mem | pop
  deriving DecidableEq, Repr

def cls : Ev → Cls
  | .lock _ | .unlock _ => .mutex
  | .rd _ => .rd
  | .wr .cmd _ _ _ => .wrC
  | .wr .uns _ _ _ => .wrU
  | .handler .cmd .. | .varcb .cmd .. => .cbC
  | .handler .uns .. | .varcb .uns .. => .cbU
  | .nestedTrig .. | .nestedExit .. => .nested
  | .ack _ | .ackDone => .ack
  | .flushStart .cmd _ | .flushEnd .cmd => .flC
  | .flushStart .uns _ | .flushEnd .uns => .flU
  | .memWrite .. => .mem
  | .pop .. => .pop

def tr (c : Cls) (l : List Ev) : List Ev := l.filter (fun e => cls e == c)

@[simp] theorem tr_nil (c : Cls) : tr c [] = [] := rfl
@[simp] theorem tr_append (c : Cls) (a b : List Ev) : tr c (a ++ b) = tr c a ++ tr c b := by simp [tr]
@[simp] theorem tr_cons (c : Cls) (e : Ev) (l : List Ev) : tr c (e :: l) = (if c = cls e then [e] else []) ++ tr c l := by
  simp only [tr, List.filter_cons, beq_iff_eq, eq_comm (a := c)]; split <;> simp

theorem filterMap_tr {α : Type} (c : Cls) (g : Ev → Option α) (h : ∀ e, cls e ≠ c → g e = none) :
    ∀ l : List Ev, l.filterMap g = (tr c l).filterMap g
  | [] => rfl
  | e :: l => by
    rw [tr_cons, List.filterMap_append, ← filterMap_tr c g h l]
    by_cases he : c = cls e
    · simp [he, List.filterMap_cons]; cases g e <;> rfl
    · simp [he, h e (Ne.symm he)]

/-- the step from `s` to `s'` appended no event of class `c` -/
@[simp] abbrev Quiet (c : Cls) (s s' : St) : Prop := tr c s'.log = tr c s.log

/-- the step from `s` to `s'` appended only events of the classes in `K` -/
@[simp] abbrev LogsOnly (K : List Cls) (s s' : St) : Prop := ∀ c, c ∉ K → Quiet c s s'

/-- without nested API calls a callback's actions log nothing at all -/
def noApi : List Nested → Bool
  | [] => true
  | .trigger .. :: _ => false
  | .holdExit .. :: _ => false
  | _ :: r => noApi r

/-- either the class is not one that nested API calls log, or the callback makes no API calls -/
def ApiFree (c : Cls) (acts : List Nested) : Prop := (c ≠ .mutex ∧ c ≠ .nested) ∨ noApi acts = true

theorem ApiFree.of_ne {c : Cls} {acts : List Nested} (h1 : c ≠ .mutex) (h2 : c ≠ .nested) : ApiFree c acts := Or.inl ⟨h1, h2⟩

end Cat
