/-
  The line discipline over whole histories of API calls (C01).
-/
import CatVerif.Proofs.Acct
import CatVerif.Proofs.Line
namespace Cat
open St

/-- the fields the line discipline looks at are unchanged and no result code was started -/
def LineSame (a b : St) : Prop :=
  b.state = a.state ∧ b.writeStateAfter = a.writeStateAfter ∧ b.currentChar = a.currentChar ∧
  b.cmdType = a.cmdType ∧ b.holdFlag = a.holdFlag ∧ tr .ack b.log = tr .ack a.log

theorem LineSame.refl (a : St) : LineSame a a := ⟨rfl, rfl, rfl, rfl, rfl, rfl⟩
theorem LineSame.trans {a b c : St} (h1 : LineSame a b) (h2 : LineSame b c) : LineSame a c := by
  unfold LineSame at *
  simp [h1, h2]
theorem LineSame.emit (a : St) (e : Ev) (he : cls e ≠ .ack) : LineSame a (a.emit e) := by
  simp [LineSame, St.emit, Ne.symm he]

theorem LineSame.bal {a b : St} (h : LineSame a b) : bal b = bal a ∧ owes b = owes a := by
  unfold LineSame at h
  exact neutral_bal a b (by simp [h])

theorem LineSame.lineCpl {a b : St} (h : LineSame a b) (hl : LineCpl a) : LineCpl b := by
  unfold LineSame at h
  exact ⟨by simpa only [h] using hl.post, by simpa only [h] using hl.search, by simpa only [h] using hl.name,
    by simpa only [h] using hl.rdack⟩

theorem LineSame.mid {a b : St} (h : LineSame a b) (m : MidLine a) : MidLine b := by
  unfold LineSame at h
  simpa only [MidLine, MidSet, h] using m

theorem LineSame.holdCpl {a b : St} (h : LineSame a b) (hc : HoldCpl a) : HoldCpl b := by
  unfold LineSame at h
  simpa only [HoldCpl, h] using hc

theorem unsolicitedEventsService_lineSame (D : Desc) (s : St) (i : SvcIn) (hu : i.hu.ret ≠ 4) :
    LineSame s (unsolicitedEventsService D s i).1 := by
  have k := unsolicitedEventsService_keepsC D s i hu
  have q := unsolicitedEventsService_quiet .ack (by decide) D s i (.of_ne (by decide) (by decide)) (.of_ne (by decide) (by decide))
  simp only [LineSame, k, q, and_self]

/-- what one call does to the line accounting: the coupling holds after it, result codes started plus owed grow by the
lines begun, `MidLine` is kept; steps that are `LineSame` before or after it are absorbed (`same_left`, `same_right`) -/
structure LineStep (s s' : St) : Prop where
  cpl : LineCpl s'
  bal : bal s' = bal s + begins s s'
  mid : MidLine s → MidLine s'

theorem LineStep.of_same {a b : St} (h : LineSame a b) (hl : LineCpl a) : LineStep a b :=
  ⟨h.lineCpl hl, by simp [h.bal.1, begins, h.1], h.mid⟩

theorem LineStep.same_left {a b c : St} (h : LineSame a b) (st : LineStep b c) : LineStep a c :=
  ⟨st.cpl, by rw [st.bal, h.bal.1, begins, begins, h.1], fun m => st.mid (h.mid m)⟩

theorem LineStep.same_right {a b c : St} (st : LineStep a b) (h : LineSame b c) (hl : LineCpl b) : LineStep a c :=
  ⟨h.lineCpl hl, by rw [h.bal.1, st.bal, begins, begins, h.1], fun m => h.mid (st.mid m)⟩

theorem serviceBody_lineStep (D : Desc) (s : St) (i : SvcIn) (hu : i.hu.ret ≠ 4) (hc : HoldCpl s) (hl : LineCpl s) :
    LineStep s (serviceBody D s i).1 := by
  have u := unsolicitedEventsService_lineSame D s i hu
  unfold serviceBody
  simp only
  exact .same_left u ⟨commandService_lineCpl D _ i (u.lineCpl hl), commandService_bal D _ i (u.holdCpl hc),
    fun m => commandService_mid D _ i m (u.lineCpl hl)⟩

/-- what the line accounting carries along a history: the hold flag is set exactly in HOLD, and state, request type and last
byte are coupled -/
def LineInv (s : St) : Prop := HoldCpl s ∧ LineCpl s

/-- **One API call**: it keeps the invariant, and the result codes it starts plus what is owed
afterwards equal what was owed before plus one if it begins a line. -/
theorem apply_line (w : World) (op : Op) (hop : OpOk op) (h : LineInv w.s) :
    LineInv (apply w op).1.s ∧
    answered (apply w op).1.s + owes (apply w op).1.s = owes w.s + begins w.s (apply w op).1.s ∧
    (MidLine w.s → MidLine (apply w op).1.s) := by
  have hc0 : HoldCpl ({ w.s with log := [] } : St) := by simpa [HoldCpl] using h.1
  have hl0 : LineCpl ({ w.s with log := [] } : St) := ⟨h.2.post, h.2.search, h.2.name, h.2.rdack⟩
  -- up to the body nothing the line discipline reads has changed; the body makes the one `LineStep`
  have st : LineStep ({ w.s with log := [] } : St) (apply w op).1.s :=
    apply_inv (P := fun a => LineSame { w.s with log := [] } a.s) (Q := fun a => LineStep { w.s with log := [] } a.s) w op
      (weaken := fun _ e => .of_same e hl0)
      (lock := fun _ _ e => e.trans (.emit _ _ (by simp [cls])))
      (unlock := fun _ _ st => st.same_right (.emit _ _ (by simp [cls])) st.cpl)
      (svc := fun i e a s => by
        subst e
        exact .same_left s (serviceBody_lineStep a.D a.s i hop (s.holdCpl hc0) (s.lineCpl hl0)))
      (push := fun _ _ _ _ _ _ e => .of_same (e.trans (by simp [LineSame])) hl0)
      (exit := fun _ _ e => .of_same (e.trans (by simp [LineSame])) hl0)
      (flag := fun _ _ _ e => .of_same e hl0)
      (poke := fun _ _ _ _ _ e => .of_same (e.trans ⟨rfl, rfl, rfl, rfl, rfl, rfl⟩) hl0)
      (.refl _)
  refine ⟨⟨apply_holdCpl w op hop h.1, st.cpl⟩, ?_, st.mid⟩
  have := st.bal
  rw [show bal ({ w.s with log := [] } : St) = owes w.s by simp [bal, answered, owes]] at this
  simpa [bal, begins] using this

/-- result codes started in the per-call logs of a history -/
def acksIn (outs : List (Int × List Ev)) : Nat :=
  (outs.map (fun o => ((tr .ack o.2).filter isAck).length)).sum

/-- lines begun during a history: calls that take the command machine out of IDLE -/
def linesBegun : World → List Op → Nat
  | _, [] => 0
  | w, op :: r => begins w.s (apply w op).1.s + linesBegun (apply w op).1 r

/-- **Exactly one result code per line, over any history**: the result codes started during the
history, plus the one still owed at its end, equal the lines begun plus the one owed at its start.
As `owes ≤ 1`, lines are answered one at a time, hence in order. -/
theorem runOps_line : ∀ (ops : List Op) (w : World), (∀ op ∈ ops, OpOk op) → LineInv w.s →
    LineInv (runOps w ops).1.s ∧
    acksIn (runOps w ops).2 + owes (runOps w ops).1.s = owes w.s + linesBegun w ops := by
  intro ops
  induction ops with
  | nil => intro w _ h; simp [runOps, acksIn, linesBegun, h]
  | cons op r ih =>
    intro w hok h
    have a := apply_line w op (hok op (by simp)) h
    have b := ih (apply w op).1 (fun o ho => hok o (by simp [ho])) a.1
    simp only [runOps, linesBegun]
    refine ⟨b.1, ?_⟩
    show answered (apply w op).1.s + acksIn (runOps (apply w op).1 r).2 + _ = _
    have a2 := a.2.1
    have b2 := b.2
    omega

end Cat
