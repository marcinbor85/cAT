/-
  The byte-buffer and string argument decoders (C05): exact decoding, and the universal bound on
  what they store — for texts of any length, accepted or rejected.
-/
import CatVerif.Spec.Codec
import CatVerif.Proofs.ParseNum
import CatVerif.Proofs.Ite
namespace Cat
open Spec

/-- **Never beyond `data_size`**: whatever the text, the decoder stores at most `data_size` bytes
(starting at index 0), on every path, accepting or rejecting. -/
theorem parseBufHex_bound (ds : Nat) : ∀ (txt : List Byte) (byte : Nat) (st : Bool) (acc : List Byte) (n : Nat),
    acc.length ≤ ds → (parseBufHex ds txt byte st acc n).stored.length ≤ ds ∧
      (parseBufHex ds txt byte st acc n).size ≤ ds := by
  intro txt
  induction txt with
  | nil => intro byte st acc n h; simpa [parseBufHex] using h
  | cons c r ih =>
    intro byte st acc n h
    have br := @rel_ite PBuf (fun x => x.stored.length ≤ ds ∧ x.size ≤ ds)
    have ret : ∀ (x : Int) (m : Nat), ({ ret := x, stored := acc.reverse, size := acc.length, used := m } : PBuf).stored.length ≤ ds ∧
        ({ ret := x, stored := acc.reverse, size := acc.length, used := m } : PBuf).size ≤ ds :=
      fun _ _ => by simpa using h
    simp only [parseBufHex]
    exact br (fun _ => ret _ _) fun _ => br (fun _ => ret _ _) fun _ =>
      br (fun _ => br (fun _ => ret _ _) fun hl => ih _ _ _ _ (by simp only [List.length_cons]; omega))
        fun _ => ih _ _ _ _ h

theorem parseBufHex_hi (ds : Nat) (c : Byte) (r : List Byte) (byte : Nat) (acc : List Byte) (n : Nat) (h : isHexDigit c = true) :
    parseBufHex ds (c :: r) byte false acc n = parseBufHex ds r ((byte * 16 + hexDigitValue c) % 256) true acc (n + 1) := by
  have ⟨hc, ht⟩ := isHexDigit_field h
  rw [← isTerm_toUpper c hc] at ht
  have hg : (toUpper c == 0 || toUpper c == 44) = false := by simpa [IsTerm] using ht
  simp [parseBufHex, hg, isHexChar_upper_table c hc, hexVal_upper_table c hc h, h]

theorem parseBufHex_lo (ds : Nat) (c : Byte) (r : List Byte) (byte : Nat) (acc : List Byte) (n : Nat) (h : isHexDigit c = true)
    (hroom : acc.length < ds) :
    parseBufHex ds (c :: r) byte true acc n =
      parseBufHex ds r 0 false ((byte * 16 + hexDigitValue c) % 256 :: acc) (n + 1) := by
  have hc := (isHexDigit_field h).1
  simp [parseBufHex, isHexChar_upper_table c hc, hexVal_upper_table c hc h, h, Nat.not_le.2 hroom]

theorem parseBufHex_term (ds : Nat) (t : Byte) (r : List Byte) (byte : Nat) (acc : List Byte) (n : Nat) (ht : IsTerm t)
    (hacc : 0 < acc.length) :
    parseBufHex ds (t :: r) byte false acc n =
      { ret := if t = 44 then 1 else 0, stored := acc.reverse, size := acc.length, used := n + 1 } := by
  rcases ht with rfl | rfl <;> simp [parseBufHex, toUpper_zero, toUpper_comma, hacc]

theorem parseBufHex_aux (ds : Nat) (tail : List Byte) :
    ∀ (field : List Byte) (hi : Option Nat) (decoded acc : List Byte) (n : Nat),
      hexPairsAux hi field = some decoded → (∀ h, hi = some h → h < 16) → acc.length + decoded.length ≤ ds →
      parseBufHex ds (field ++ tail) (hi.getD 0) hi.isSome acc n =
        parseBufHex ds tail 0 false (decoded.reverse ++ acc) (n + field.length) := by
  intro field hi
  fun_induction hexPairsAux hi field with
  | case1 => intro decoded acc n hd _ _; cases hd; rfl
  | case3 c r hc ih =>
    intro decoded acc n hd _ hlen
    have lc := hexDigitValue_lt c hc
    rw [List.cons_append, Option.getD_none, Option.isSome_none, parseBufHex_hi ds c _ 0 acc n hc, Nat.zero_mul, Nat.zero_add,
      Nat.mod_eq_of_lt (by omega), List.length_cons, Nat.add_comm r.length, ← Nat.add_assoc]
    exact ih decoded acc (n + 1) hd (fun h e => by cases e; exact lc) hlen
  | case5 h c r hc ih =>
    intro decoded acc n hd hh hlen
    obtain ⟨d', hr, rfl⟩ := Option.map_eq_some_iff.1 hd
    have lc := hexDigitValue_lt c hc
    have := hh h rfl
    rw [List.length_cons] at hlen
    rw [List.cons_append, Option.getD_some, Option.isSome_some, parseBufHex_lo ds c _ h acc n hc (by omega),
      Nat.mod_eq_of_lt (by omega), List.length_cons, Nat.add_comm r.length, ← Nat.add_assoc, List.reverse_cons,
      List.append_assoc]
    exact ih d' _ (n + 1) hr (fun _ e => by cases e) (by rw [List.length_cons]; omega)
  | case2 | case4 | case6 => intro _ _ _ hd; cases hd

/-- **accepted hex buffer**: an even, non-zero number of hex digits encoding at most `data_size`
bytes is stored exactly; the reported size is the byte count -/
theorem parseBufHex_accept (ds : Nat) (field rest decoded : List Byte) (t : Byte) (ht : IsTerm t)
    (hd : hexPairs field = some decoded) (hne : decoded ≠ []) (hlen : decoded.length ≤ ds) :
    parseBufHex ds (field ++ t :: rest) 0 false [] 0 =
      { ret := if t = 44 then 1 else 0, stored := decoded, size := decoded.length, used := field.length + 1 } := by
  have := parseBufHex_aux ds (t :: rest) field none decoded [] 0 hd (fun _ e => by cases e) (by simpa using hlen)
  rw [Option.getD_none, Option.isSome_none] at this
  rw [this, parseBufHex_term ds t rest 0 _ _ ht (by simpa using List.length_pos_iff.2 hne)]
  simp

theorem parseBufHex_empty (ds : Nat) (rest : List Byte) (t : Byte) (ht : IsTerm t) (n : Nat) :
    (parseBufHex ds (t :: rest) 0 false [] n).ret = -1 := by
  rcases ht with rfl | rfl <;> simp [parseBufHex, toUpper_zero, toUpper_comma, isHexChar_zero, isHexChar_comma]

/-- **Never beyond `data_size`** for strings, closing NUL included. -/
theorem parseBufString_bound (ds : Nat) : ∀ (txt : List Byte) (st : Nat) (acc : List Byte) (n : Nat),
    acc.length ≤ ds → (parseBufString ds txt st acc n).stored.length ≤ ds := by
  intro txt
  induction txt with
  | nil => intro st acc n h; simpa [parseBufString] using h
  | cons c r ih =>
    intro st acc n h
    have br := @rel_ite PBuf (fun x => x.stored.length ≤ ds)
    have rej : ∀ m, ({ ret := -1, stored := acc.reverse, size := acc.length, used := m } : PBuf).stored.length ≤ ds :=
      fun _ => by simpa using h
    have same : ∀ st', (parseBufString ds r st' acc (n + 1)).stored.length ≤ ds := fun _ => ih _ _ _ h
    -- a byte is pushed only behind the check that there is room
    have push : ∀ x st', ¬ acc.length ≥ ds → (parseBufString ds r st' (x :: acc) (n + 1)).stored.length ≤ ds :=
      fun x st' hl => ih _ _ _ (by simp only [List.length_cons]; omega)
    simp only [parseBufString]
    refine br (fun _ => ?_) fun _ => br (fun _ => ?_) fun _ => br (fun _ => ?_) fun _ => ?_
    · -- before the opening quote
      exact br (fun _ => rej _) fun _ => same _
    · -- inside the quotes
      exact br (fun _ => rej _) fun _ => br (fun _ => same _) fun _ => br (fun _ => same _) fun _ =>
        br (fun _ => rej _) (push _ _)
    · -- behind a backslash
      exact br (fun _ => br (fun _ => rej _) (push _ _)) fun _ => rej _
    · -- behind the closing quote: the NUL is stored only if there is room
      exact br (fun _ => br (fun _ => rej _) fun hl => by simp; omega) fun _ => rej _

theorem parseBufString_open (ds : Nat) (r acc : List Byte) (n : Nat) :
    parseBufString ds (34 :: r) 0 acc n = parseBufString ds r 1 acc (n + 1) := by
  simp [parseBufString]

theorem parseBufString_plain (ds : Nat) (c : Byte) (r acc : List Byte) (n : Nat) (h0 : c ≠ 0) (h92 : c ≠ 92) (h34 : c ≠ 34)
    (hroom : acc.length < ds) :
    parseBufString ds (c :: r) 1 acc n = parseBufString ds r 1 (c :: acc) (n + 1) := by
  simp [parseBufString, h0, h92, h34, Nat.not_le.2 hroom]

theorem parseBufString_backslash (ds : Nat) (r acc : List Byte) (n : Nat) :
    parseBufString ds (92 :: r) 1 acc n = parseBufString ds r 2 acc (n + 1) := by
  simp [parseBufString]

theorem parseBufString_escaped (ds : Nat) (c : Byte) (r acc : List Byte) (n : Nat) (hc : c = 92 ∨ c = 34 ∨ c = 110)
    (hroom : acc.length < ds) :
    parseBufString ds (c :: r) 2 acc n = parseBufString ds r 1 ((if c = 110 then 10 else c) :: acc) (n + 1) := by
  rcases hc with rfl | rfl | rfl <;> simp [parseBufString, Nat.not_le.2 hroom]

theorem parseBufString_close (ds : Nat) (t : Byte) (r acc : List Byte) (n : Nat) (ht : IsTerm t) (hroom : acc.length < ds) :
    parseBufString ds (34 :: t :: r) 1 acc n =
      { ret := if t = 44 then 1 else 0, stored := acc.reverse ++ [0], size := acc.length, used := n + 2 } := by
  rcases ht with rfl | rfl <;> simp [parseBufString, Nat.not_le.2 hroom]

theorem parseBufString_body (ds : Nat) (tail : List Byte) :
    ∀ (body : List Byte) (esc : Bool) (decoded acc : List Byte) (n : Nat), unescapeAux esc body = some decoded →
      acc.length + decoded.length ≤ ds →
      parseBufString ds (body ++ tail) (if esc then 2 else 1) acc n =
        parseBufString ds tail 1 (decoded.reverse ++ acc) (n + body.length) := by
  intro body esc
  -- the step common to every byte that decodes to a byte `x`: given room the parser stores `x` and goes on inside the quotes
  have push : ∀ (c x : Byte) (r : List Byte) (st : Nat) (decoded acc : List Byte) (n : Nat),
      (∀ (decoded acc : List Byte) (n : Nat), unescapeAux false r = some decoded → acc.length + decoded.length ≤ ds →
        parseBufString ds (r ++ tail) (if false = true then 2 else 1) acc n =
          parseBufString ds tail 1 (decoded.reverse ++ acc) (n + r.length)) →
      (acc.length < ds → parseBufString ds (c :: (r ++ tail)) st acc n = parseBufString ds (r ++ tail) 1 (x :: acc) (n + 1)) →
      (unescapeAux false r).map (x :: ·) = some decoded → acc.length + decoded.length ≤ ds →
      parseBufString ds (c :: r ++ tail) st acc n = parseBufString ds tail 1 (decoded.reverse ++ acc) (n + (c :: r).length) := by
    intro c x r st decoded acc n ih hstep hd hlen
    obtain ⟨d', hr, rfl⟩ := Option.map_eq_some_iff.1 hd
    rw [List.length_cons] at hlen
    rw [List.cons_append, hstep (by omega), List.length_cons, Nat.add_comm r.length, ← Nat.add_assoc, List.reverse_cons,
      List.append_assoc]
    exact ih d' (x :: acc) (n + 1) hr (by rw [List.length_cons]; omega)
  fun_induction unescapeAux esc body with
  | case1 => intro decoded acc n hd _; cases hd; rfl
  | case3 r ih =>
    intro decoded acc n hd hlen
    rw [if_neg Bool.false_ne_true, List.cons_append, parseBufString_backslash, List.length_cons, Nat.add_comm r.length,
      ← Nat.add_assoc]
    exact ih decoded acc (n + 1) hd hlen
  | case5 c r h92 hbad ih =>
    intro decoded acc n
    rw [if_neg Bool.false_ne_true]
    exact push c c r 1 decoded acc n ih
      (parseBufString_plain ds c _ acc n (fun h => hbad (Or.inr h)) h92 (fun h => hbad (Or.inl h)))
  | case6 r ih =>
    intro decoded acc n
    exact push 92 92 r _ decoded acc n ih (parseBufString_escaped ds 92 _ acc n (by decide))
  | case7 r _ ih =>
    intro decoded acc n
    exact push 34 34 r _ decoded acc n ih (parseBufString_escaped ds 34 _ acc n (by decide))
  | case8 r _ _ ih =>
    intro decoded acc n
    exact push 110 10 r _ decoded acc n ih (parseBufString_escaped ds 110 _ acc n (by decide))
  | case2 | case4 | case9 => intro _ _ _ hd; cases hd

/-- **accepted string**: `"` body `"` with a well-formed body whose decoded length is at most
`data_size − 1` stores exactly the decoded bytes followed by NUL and reports the decoded length -/
theorem parseBufString_accept (ds : Nat) (rest body decoded : List Byte) (t : Byte) (ht : IsTerm t)
    (hd : unescape body = some decoded) (hlen : decoded.length < ds) :
    parseBufString ds (34 :: body ++ 34 :: t :: rest) 0 [] 0 =
      { ret := if t = 44 then 1 else 0, stored := decoded ++ [0], size := decoded.length, used := body.length + 3 } := by
  have := parseBufString_body ds (34 :: t :: rest) body false decoded [] 1 hd (Nat.le_of_lt (by simpa using hlen))
  rw [if_neg Bool.false_ne_true] at this
  rw [List.cons_append, parseBufString_open, this, parseBufString_close ds t rest _ _ ht (by simpa using hlen)]
  simp; omega

theorem parseBufString_no_quote (ds : Nat) (c : Byte) (r : List Byte) (h : c ≠ 34) :
    parseBufString ds (c :: r) 0 [] 0 = { ret := -1, stored := [], size := 0, used := 1 } := by
  simp [parseBufString, h]

end Cat
