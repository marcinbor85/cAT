/-
  C04 at the level of one variable: the parser, the range validation and the store together.
-/
import CatVerif.Proofs.ParseNum
import CatVerif.Proofs.Mem
import CatVerif.Proofs.Ctl
namespace Cat
open St Spec

theorem storeInt_spec (s : St) (v : VarD) (x : Nat) (hslot : v.dataSize ≤ (s.slotGet v.slot).length) :
    (storeInt s v x).slotGet v.slot = leBytes v.dataSize x ++ (s.slotGet v.slot).drop v.dataSize ∧
    (storeInt s v x).writeSize = v.dataSize ∧ (storeInt s v x).oob = s.oob ∧
    (∀ k, k ≠ v.slot → (storeInt s v x).slotGet k = s.slotGet k) := by
  have hc : s.chk (decide (v.dataSize ≤ (s.slotGet v.slot).length)) = s := by simp [St.chk, hslot]
  have := slotWrite_spec v.slot (leBytes v.dataSize x) s 0 (by rw [leBytes_length, Nat.zero_add]; exact hslot)
  rw [leBytes_length, List.take_zero, List.nil_append, Nat.zero_add] at this
  unfold storeInt
  rw [hc]
  exact ⟨this.1, rfl, this.2.1, this.2.2.2.1⟩

/-- the left side is the `switch (data_size)` of the two validators -/
theorem width_switch {α : Type} (size : Nat) (bad : Nat → Prop) [DecidablePred bad] (ok : Nat → α) (no : α) :
    (if size == 1 then (if bad 8 then no else ok 8) else if size == 2 then (if bad 16 then no else ok 16)
      else if size == 4 then (if bad 32 then no else ok 32) else no) =
      if (size = 1 ∨ size = 2 ∨ size = 4) ∧ ¬ bad (8 * size) then ok (8 * size) else no := by
  by_cases h1 : size = 1
  · subst h1; by_cases h : bad 8 <;> simp [h]
  · by_cases h2 : size = 2
    · subst h2; by_cases h : bad 16 <;> simp [h]
    · by_cases h4 : size = 4
      · subst h4; by_cases h : bad 32 <;> simp [h]
      · simp [h1, h2, h4]

/-- `validate_uint_range` on a writable variable: accepted iff the value fits the width; then the
value is stored little-endian in the first `data_size` bytes and nothing else changes -/
theorem validateUIntRange_spec (s : St) (v : VarD) (val : Nat) (hacc : v.access ≠ .ro)
    (hslot : v.dataSize ≤ (s.slotGet v.slot).length) :
    (fitsU v.dataSize val →
      (validateUIntRange s v val).2 = true ∧
      (validateUIntRange s v val).1.slotGet v.slot = leBytes v.dataSize val ++ (s.slotGet v.slot).drop v.dataSize ∧
      (validateUIntRange s v val).1.writeSize = v.dataSize ∧ (validateUIntRange s v val).1.oob = s.oob ∧
      (∀ k, k ≠ v.slot → (validateUIntRange s v val).1.slotGet k = s.slotGet k)) ∧
    (¬ fitsU v.dataSize val → validateUIntRange s v val = (s, false)) := by
  have pos := Nat.two_pow_pos (8 * v.dataSize)
  unfold fitsU
  have e : validateUIntRange s v val =
      if (v.dataSize = 1 ∨ v.dataSize = 2 ∨ v.dataSize = 4) ∧ val < 2 ^ (8 * v.dataSize) then (storeInt s v val, true)
      else (s, false) := by
    unfold validateUIntRange
    rw [beq_eq_false_iff_ne.mpr hacc, if_neg Bool.false_ne_true]
    refine (width_switch v.dataSize (val > 2 ^ · - 1) (fun _ => (storeInt s v val, true)) (s, false)).trans ?_
    exact ite_cond_congr (propext (and_congr_right fun _ => by omega))
  rw [e]
  exact ⟨fun h => by rw [if_pos h]; exact ⟨rfl, storeInt_spec s v val hslot⟩, fun h => by rw [if_neg h]⟩

/-- `validate_int_range` on a writable variable: accepted iff the signed value fits the width; then
its two's complement encoding is stored -/
theorem validateIntRange_spec (s : St) (v : VarD) (neg : Bool) (mag : Nat) (hacc : v.access ≠ .ro)
    (hslot : v.dataSize ≤ (s.slotGet v.slot).length) :
    let val : Int := if neg then -(mag : Int) else mag
    (fitsI v.dataSize val →
      (validateIntRange s v neg mag).2 = true ∧
      (validateIntRange s v neg mag).1.slotGet v.slot =
        leBytes v.dataSize (ofSigned (8 * v.dataSize) val) ++ (s.slotGet v.slot).drop v.dataSize ∧
      (validateIntRange s v neg mag).1.writeSize = v.dataSize ∧ (validateIntRange s v neg mag).1.oob = s.oob ∧
      (∀ k, k ≠ v.slot → (validateIntRange s v neg mag).1.slotGet k = s.slotGet k)) ∧
    (¬ fitsI v.dataSize val → validateIntRange s v neg mag = (s, false)) := by
  intro val
  unfold fitsI
  have e : validateIntRange s v neg mag =
      if (v.dataSize = 1 ∨ v.dataSize = 2 ∨ v.dataSize = 4) ∧
          -(2 ^ (8 * v.dataSize - 1) : Int) ≤ val ∧ val < 2 ^ (8 * v.dataSize - 1) then
        (storeInt s v (ofSigned (8 * v.dataSize) val), true)
      else (s, false) := by
    unfold validateIntRange
    rw [beq_eq_false_iff_ne.mpr hacc, if_neg Bool.false_ne_true]
    refine (width_switch v.dataSize (fun bits => (val < -(2 ^ (bits - 1) : Int) || val > (2 ^ (bits - 1) : Int) - 1) = true)
      (fun bits => (storeInt s v (ofSigned bits val), true)) (s, false)).trans ?_
    exact ite_cond_congr (propext (and_congr_right fun _ => by simp; omega))
  rw [e]
  exact ⟨fun h => by rw [if_pos h]; exact ⟨rfl, storeInt_spec s v _ hslot⟩, fun h => by rw [if_neg h]⟩

theorem fitsU_le_u64 (size v : Nat) (h : fitsU size v) : v ≤ U64MAX := by
  obtain ⟨hs, hv⟩ := h
  unfold U64MAX
  rcases hs with rfl | rfl | rfl <;> simp at hv <;> omega

/-- **C04 for the two unsigned types**, the parser result `r` being any that meets the parser's
specification for a grammar `G` and value `val`: if the text is in the grammar and the value fits the
width it is stored exactly, the position moves over field and terminator and the status tells comma
from end; otherwise the step fails and variable storage is what it was. -/
theorem numStore_unsigned (s : St) (v : VarD) (r : PNum) (G : Prop) (val len : Nat) (t : Byte) (hacc : v.access ≠ .ro)
    (hslot : v.dataSize ≤ (s.slotGet v.slot).length)
    (hr : (G ∧ val ≤ U64MAX → r = { ret := if t = 44 then 1 else 0, val := val, used := len + 1 }) ∧
      (¬ (G ∧ val ≤ U64MAX) → r.ret = -1)) :
    let out := numStore s r fun r s => validateUIntRange s v r.val
    (G ∧ fitsU v.dataSize val →
      out.2.2 = true ∧ out.2.1 = (if t = 44 then 1 else 0) ∧
      out.1.slotGet v.slot = leBytes v.dataSize val ++ (s.slotGet v.slot).drop v.dataSize ∧
      (∀ k, k ≠ v.slot → out.1.slotGet k = s.slotGet k) ∧
      out.1.position = s.position + len + 1 ∧ out.1.writeSize = v.dataSize ∧ out.1.oob = s.oob) ∧
    (¬ (G ∧ fitsU v.dataSize val) → out.2.2 = false ∧ out.1.mem = s.mem) := by
  intro out
  by_cases hg : G ∧ val ≤ U64MAX
  · -- parsed: the validator decides, on the state with the cursor behind the field
    obtain rfl := hr.1 hg
    have hret : ¬ (if t = 44 then (1 : Int) else 0) < 0 := by split <;> omega
    let s1 : St := { s with position := s.position + (len + 1) }
    have hv := validateUIntRange_spec s1 v val hacc hslot
    have e : out = ((validateUIntRange s1 v val).1, (if t = 44 then 1 else 0), (validateUIntRange s1 v val).2) := by
      simp only [out, numStore, if_neg hret, St.chk]; rfl
    rw [e]
    refine ⟨fun ⟨_, hf⟩ => ?_, fun hn => ?_⟩
    · obtain ⟨a1, a2, a3, a4, a5⟩ := hv.1 hf
      exact ⟨a1, rfl, a2, a5, by simp [s1, Nat.add_assoc], a3, a4⟩
    · rw [hv.2 (fun hf => hn ⟨hg.1, hf⟩)]
      exact ⟨rfl, rfl⟩
  · -- not parsed: nothing is validated or stored
    have hret : r.ret < 0 := by rw [hr.2 hg]; decide
    have e : out = ({ (s.chk (!r.off)) with position := s.position + r.used }, r.ret, false) := by
      simp only [out, numStore, if_pos hret]
    rw [e]
    exact ⟨fun ⟨h1, h2⟩ => absurd ⟨h1, fitsU_le_u64 _ _ h2⟩ hg, fun _ => ⟨rfl, by simp⟩⟩

end Cat
