/-
  No undefined operation along any history of API calls (C03).
-/
import CatVerif.Proofs.NoUb
import CatVerif.Proofs.Hold
namespace Cat
open St

structure DescSame (D D' : Desc) : Prop where
  num : D'.commandsNum = D.commandsNum
  ccap : D'.cmdCap = D.cmdCap
  ucap : D'.unsCap = D.unsCap
  vars : ∀ id, (D'.cmdD id).varNum = (D.cmdD id).varNum

theorem DescSame.refl (D : Desc) : DescSame D D := ⟨rfl, rfl, rfl, fun _ => rfl⟩

theorem DescEq.same {D D' : Desc} (h : DescEq D D') : DescSame D D' :=
  ⟨h.num, by simp [Desc.cmdCap, h.bufSize, h.unsBuf], by simp [Desc.unsCap, h.bufSize, h.unsBuf],
   fun id => by simp [CmdD.varNum, h.vars]⟩

theorem UbInv.desc {D D' : Desc} {s : St} (h : DescSame D D') (u : UbInv D s) : UbInv D' s :=
  ⟨fun x => by rw [h.num]; exact u.idx x, u.name, u.cmd, fun x => by rw [h.vars]; exact u.var x, fun x => by rw [h.ccap]; exact u.pos x⟩

theorem UbInvU.desc {D D' : Desc} {s : St} (h : DescSame D D') (u : UbInvU D s) : UbInvU D' s :=
  ⟨u.cmd, fun x => by rw [h.vars]; exact u.var x, fun x => by rw [h.ucap]; exact u.pos x⟩

/-- the fields the two invariants read -/
def UbSame (s s' : St) : Prop :=
  s'.state = s.state ∧ s'.index = s.index ∧ s'.cmd = s.cmd ∧ s'.writeStateAfter = s.writeStateAfter ∧ s'.position = s.position ∧
  s'.ustate = s.ustate ∧ s'.uindex = s.uindex ∧ s'.ucmd = s.ucmd ∧ s'.uwriteStateAfter = s.uwriteStateAfter ∧ s'.uposition = s.uposition ∧
  s'.ub = s.ub

theorem UbSame.refl (s : St) : UbSame s s := ⟨rfl, rfl, rfl, rfl, rfl, rfl, rfl, rfl, rfl, rfl, rfl⟩
theorem UbSame.trans {a b c : St} (h1 : UbSame a b) (h2 : UbSame b c) : UbSame a c := by
  unfold UbSame at *
  simp [h1, h2]

theorem UbSame.inv {D : Desc} {s s' : St} (h : UbSame s s') (u : UbInv D s) (v : UbInvU D s) : UbInv D s' ∧ UbInvU D s' := by
  unfold UbSame at h
  constructor
  · apply u.congr <;> simp [h]
  · apply v.congr <;> simp [h]

theorem UbSame.emit (s : St) (e : Ev) : UbSame s (s.emit e) := ⟨rfl, rfl, rfl, rfl, rfl, rfl, rfl, rfl, rfl, rfl, rfl⟩

/-- the index disciplines of both machines -/
def UbAll (D : Desc) (s : St) : Prop := UbInv D s ∧ UbInvU D s

theorem init_ubAll (D : Desc) (buf ubuf : List Byte) (mem : List (List Byte)) : UbAll D (init D buf ubuf mem) :=
  ⟨⟨by simp [init], by simp [init], by simp [NeedsCmd, init], by simp [init], by simp [init]⟩,
   ⟨by simp [NeedsUCmd, init], by simp [init], by simp [init]⟩⟩

theorem serviceBody_noUb (D : Desc) (s : St) (i : SvcIn) (hu : i.hu.ret ≠ 4) (hn : 0 < D.commandsNum) (h : UbAll D s) :
    (serviceBody D s i).1.ub = s.ub ∧ UbAll D (serviceBody D s i).1 := by
  have us := unsolicitedEventsService_ub D s i h.2
  have kc := unsolicitedEventsService_keepsC D s i hu
  -- each machine's discipline survives the other machine's step
  have cs := commandService_ub D (unsolicitedEventsService D s i).1 i hn (h.1.of_keepsC ⟨kc.1, kc.2.1⟩)
  exact ⟨cs.1.trans us.1, cs.2, us.2.of_keepsU (commandService_keepsU D (unsolicitedEventsService D s i).1 i)⟩

theorem UbSame.push (D : Desc) (s : St) (c : Nat) (t : CmdType) : UbSame s (pushUnsolicited D s c t).1 := by
  have := pushUnsolicited_frame D s c t; simp_all [UbSame]
theorem UbSame.exit (s : St) (st : Int) : UbSame s (holdExit s st).1 := by
  have := holdExit_frame s st; simp_all [UbSame]

/-- **One API call performs no undefined operation** (the `ub` flag it leaves is the one it found)
and keeps both index disciplines. -/
theorem apply_noUb (w : World) (op : Op) (hop : OpOk op) (hn : 0 < w.D.commandsNum) (h : UbAll w.D w.s) :
    (apply w op).1.s.ub = w.s.ub ∧ UbAll (apply w op).1.D (apply w op).1.s ∧ (apply w op).1.D.commandsNum = w.D.commandsNum := by
  -- the flag is compared with its value at the start of the call
  have same : ∀ (a : World) (s' : St), UbSame a.s s' →
      a.s.ub = w.s.ub ∧ UbAll a.D a.s ∧ a.D.commandsNum = w.D.commandsNum →
      s'.ub = w.s.ub ∧ UbAll a.D s' ∧ a.D.commandsNum = w.D.commandsNum :=
    fun a s' e h => by
      have ub : s'.ub = a.s.ub := by unfold UbSame at e; simp only [e]
      exact ⟨ub.trans h.1, e.inv h.2.1.1 h.2.1.2, h.2.2⟩
  exact apply_keeps (I := fun a => a.s.ub = w.s.ub ∧ UbAll a.D a.s ∧ a.D.commandsNum = w.D.commandsNum) w op
    (lock := fun a r => same a _ (.emit _ _)) (unlock := fun a r => same a _ (.emit _ _))
    (svc := fun i e a h => by
      subst e
      have b := serviceBody_noUb a.D a.s i hop (h.2.2 ▸ hn) h.2.1
      exact ⟨b.1.trans h.1, b.2, h.2.2⟩)
    (push := fun c t _ _ _ a => same a _ (.push a.D a.s c _))
    (exit := fun st a => same a _ (.exit a.s st))
    (flag := fun a D' de h => ⟨h.1, ⟨h.2.1.1.desc de.same, h.2.1.2.desc de.same⟩, de.num.trans h.2.2⟩)
    (poke := fun a _ _ _ _ => same a _ ⟨rfl, rfl, rfl, rfl, rfl, rfl, rfl, rfl, rfl, rfl, rfl⟩)
    (same w _ ⟨rfl, rfl, rfl, rfl, rfl, rfl, rfl, rfl, rfl, rfl, rfl⟩ ⟨rfl, h, rfl⟩)

/-- **Along every history no undefined operation is performed**: the table cursor stays inside the
table, a command is selected wherever one is dereferenced, the variable cursors stay inside the
variable lists and the print cursors inside the capacities — for both machines. -/
theorem runOps_noUb (ops : List Op) (w : World) (hok : ∀ op ∈ ops, OpOk op) (hn : 0 < w.D.commandsNum) (h : UbAll w.D w.s) :
    (runOps w ops).1.s.ub = w.s.ub ∧ UbAll (runOps w ops).1.D (runOps w ops).1.s :=
  have := runOps_inv (I := fun a => a.s.ub = w.s.ub ∧ UbAll a.D a.s ∧ 0 < a.D.commandsNum)
    (fun a op hop h => by
      have b := apply_noUb a op hop h.2.2 h.2.1
      exact ⟨b.1.trans h.1, b.2.1, b.2.2 ▸ h.2.2⟩) ops w hok ⟨rfl, h, hn⟩
  ⟨this.1, this.2.1⟩

end Cat
