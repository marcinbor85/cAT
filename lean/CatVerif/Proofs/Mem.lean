/-
  Variable storage: what `slotWrite` stores, little-endian encoding, and the two shapes of `parseVarValue`
  (`numStore`, `bufStore`) with what a buffer store can touch.
-/
import CatVerif.Proofs.Frame
namespace Cat
open St

theorem slotGet_set_same (s : St) (slot : Nat) (x : List Byte) (h : slot < s.mem.length) :
    ({ s with mem := s.mem.set slot x } : St).slotGet slot = x := by
  simp [St.slotGet, h]

theorem slotGet_set_other (s : St) (slot k : Nat) (x : List Byte) (h : k ≠ slot) :
    ({ s with mem := s.mem.set slot x } : St).slotGet k = s.slotGet k := by
  simp [St.slotGet, List.getD, Ne.symm h]

theorem take_set_succ (l : List Nat) (off b : Nat) (hlt : off < l.length) : (l.set off b).take (off + 1) = l.take off ++ [b] := by
  induction l generalizing off with
  | nil => cases hlt
  | cons x xs ih =>
    cases off with
    | zero => rfl
    | succ k => simp [ih k (by simpa using hlt)]

theorem slotGet_nonempty_lt (s : St) (slot : Nat) (h : 0 < (s.slotGet slot).length) : slot < s.mem.length := by
  apply Nat.lt_of_not_le
  intro hl
  simp [St.slotGet, List.getD, List.getElem?_eq_none hl] at h

theorem slotWrite_spec (slot : Nat) (bs : List Byte) : ∀ (s : St) (off : Nat),
    off + bs.length ≤ (s.slotGet slot).length →
    (slotWrite s slot off bs).slotGet slot = (s.slotGet slot).take off ++ bs ++ (s.slotGet slot).drop (off + bs.length) ∧
    (slotWrite s slot off bs).oob = s.oob ∧ (slotWrite s slot off bs).ub = s.ub ∧
    (∀ k, k ≠ slot → (slotWrite s slot off bs).slotGet k = s.slotGet k) ∧
    (slotWrite s slot off bs).mem.length = s.mem.length := by
  induction bs with
  | nil => intro s off _; simp [slotWrite]
  | cons b r ih =>
    intro s off h
    simp only [List.length_cons] at h
    have hlt : off < (s.slotGet slot).length := by omega
    have hslot := slotGet_nonempty_lt s slot (by omega)
    simp only [slotWrite, hlt, if_true]
    generalize hs1 : (({ s with mem := s.mem.set slot ((s.slotGet slot).set off b) } : St).emit (.memWrite slot off)) = s1
    have g1 : s1.slotGet slot = (s.slotGet slot).set off b := by
      subst hs1; exact slotGet_set_same s slot _ hslot
    have g2 : ∀ k, k ≠ slot → s1.slotGet k = s.slotGet k := by
      intro k hk; subst hs1; exact slotGet_set_other s slot k _ hk
    have g3 : s1.oob = s.oob ∧ s1.ub = s.ub ∧ s1.mem.length = s.mem.length := by subst hs1; simp [St.emit]
    obtain ⟨a1, a2, a3, a4, a5⟩ := ih s1 (off + 1) (by rw [g1]; simp; omega)
    refine ⟨?_, by rw [a2, g3.1], by rw [a3, g3.2.1], fun k hk => by rw [a4 k hk, g2 k hk], by rw [a5, g3.2.2]⟩
    rw [a1, g1, take_set_succ _ _ _ hlt, List.drop_set_of_lt (by omega), Nat.add_assoc off 1]; simp [Nat.add_comm 1]

theorem leBytes_length (n v : Nat) : (leBytes n v).length = n := by
  induction n generalizing v with
  | zero => rfl
  | succ k ih => simp [leBytes, ih]

theorem leValue_leBytes (n v : Nat) : leValue (leBytes n v) = v % 256 ^ n := by
  induction n generalizing v with
  | zero => simp [leBytes, leValue, Nat.mod_one]
  | succ k ih =>
    simp only [leBytes, leValue, ih]
    rw [Nat.pow_succ, Nat.mul_comm (256 ^ k) 256, Nat.mod_mul]

theorem leBytes_lt (n v : Nat) : ∀ b ∈ leBytes n v, b < 256 := by
  induction n generalizing v with
  | zero => simp [leBytes]
  | succ k ih => exact List.forall_mem_cons.2 ⟨Nat.mod_lt _ (by decide), ih _⟩

/-! `parseVarValue` treats the three number types alike and the two buffer types alike, up to the parser
called.  The shapes are named so that what is proved of them is proved of a parser result `r` that is
a variable, not of the parser call on the buffer. -/

def numStore (s : St) (r : PNum) (validate : PNum → St → St × Bool) : St × Int × Bool :=
  let s := { (s.chk (!r.off)) with position := s.position + r.used }
  if r.ret < 0 then (s, r.ret, false)
  else let (s, ok) := validate r s; (s, r.ret, ok)

def bufStore (s : St) (v : VarD) (r : PBuf) : St × Int × Bool :=
  let s := { (s.chk (!r.off)) with position := s.position + r.used }
  let s := if v.access == .ro then s else slotWrite s v.slot 0 r.stored
  if r.ret < 0 then (s, r.ret, false)
  else ({ s with writeSize := if v.access == .ro then 0 else r.size }, r.ret, true)

theorem parseVarValue_eq (D : Desc) (s : St) (v : VarD) :
    parseVarValue D s v =
      let txt := region D s .cmd s.position
      match v.type with
      | .intDec => numStore s (parseIntDec txt 0 0 false 0) fun r s => validateIntRange s v r.neg r.val
      | .uintDec => numStore s (parseUIntDec txt 0 false 0) fun r s => validateUIntRange s v r.val
      | .numHex => numStore s (parseNumHex txt 0 0 0) fun r s => validateUIntRange s v r.val
      | .bufHex => bufStore s v (parseBufHex v.dataSize txt 0 false [] 0)
      | .bufString => bufStore s v (parseBufString v.dataSize txt 0 [] 0) := by
  unfold parseVarValue; cases v.type <;> rfl

theorem bufStore_slots (s : St) (v : VarD) (r : PBuf) (hl : r.stored.length ≤ v.dataSize)
    (hslot : v.dataSize ≤ (s.slotGet v.slot).length) :
    ((bufStore s v r).1.slotGet v.slot).drop v.dataSize = (s.slotGet v.slot).drop v.dataSize ∧
    (∀ k, k ≠ v.slot → (bufStore s v r).1.slotGet k = s.slotGet k) ∧
    ((bufStore s v r).1.slotGet v.slot).length = (s.slotGet v.slot).length := by
  generalize hs1 : ({ (s.chk (!r.off)) with position := s.position + r.used } : St) = s1
  have e1 : ∀ k, s1.slotGet k = s.slotGet k := fun k => by subst hs1; simp [St.slotGet]
  -- the state after the store; the report that follows does not touch storage
  have e : ∀ k, (bufStore s v r).1.slotGet k =
      (if v.access == .ro then s1 else slotWrite s1 v.slot 0 r.stored).slotGet k := fun k => by
    simp only [bufStore, hs1]; split <;> rfl
  simp only [e]
  split
  · exact ⟨by rw [e1], fun k _ => e1 k, by rw [e1]⟩
  · obtain ⟨a1, _, _, a4, _⟩ := slotWrite_spec v.slot r.stored s1 0 (by rw [e1]; omega)
    rw [List.take_zero, List.nil_append, Nat.zero_add, e1] at a1
    refine ⟨?_, fun k hk => by rw [a4 k hk, e1], by rw [a1]; simp; omega⟩
    rw [a1, List.drop_append, List.drop_eq_nil_of_le hl, List.nil_append, List.drop_drop]
    congr 1; omega

end Cat
