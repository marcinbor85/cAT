/-
  Translator item T8: the line-framing state functions `error_state`, `process_idle_state`, `parse_prefix`: C01, C20.
  (`Gen/Readers/Frame.lean`, regenerated from `src/cat.c` on every run; the model's functions are proved equal to the generated ones).
-/
import CatVerif.Gen.Readers.Frame
namespace Cat

theorem errorState_generated : errorState = Gen.error_state := rfl

theorem processIdleState_generated (D : Desc) : processIdleState = Gen.process_idle_state D := rfl

theorem parsePrefix_generated : parsePrefix = Gen.parse_prefix := rfl

end Cat
