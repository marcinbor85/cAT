/-
  Translator item T8: `wait_read_acknowledge`, `wait_test_acknowledge` (the line end after `?` and `=?`): C02, C20.
  (`Gen/Readers/Ack.lean`, regenerated from `src/cat.c` on every run; the model's functions are proved equal to the generated ones).
-/
import CatVerif.Gen.Readers.Ack
namespace Cat

theorem waitReadAcknowledge_generated (D : Desc) : waitReadAcknowledge = Gen.wait_read_acknowledge D := rfl

theorem waitTestAcknowledge_generated : waitTestAcknowledge = Gen.wait_test_acknowledge := rfl

end Cat
