/-
  Accounting of result codes (C01): `answered s` counts the result codes started in the log,
  `owes s` is 1 while the current line has not been given its result code.  Every step of the
  command machine keeps `answered + owes` constant, except that beginning a line adds 1.
-/
import CatVerif.Proofs.Hold
namespace Cat
open St

def isAck : Ev → Bool
  | .ack _ => true
  | _ => false

@[simp] theorem isAck_ack (b : Bool) : isAck (.ack b) = true := rfl

/-- result codes started so far (in this log) -/
def answered (s : St) : Nat := ((tr .ack s.log).filter isAck).length

/-- 1 while the machine owes the current line its result code: everywhere except in IDLE and
while the result code itself is being sent -/
def owes (s : St) : Nat :=
  if s.state = .idle ∨ s.state = .afterFlushReset ∨
     ((s.state = .flushWait ∨ s.state = .flushWrite) ∧ s.writeStateAfter = .reset) then 0 else 1

def bal (s : St) : Nat := answered s + owes s

@[simp] theorem endError_cmd_eq (D : Desc) (s : St) : endError D s .cmd = ackError D s := (endError_eq D s).1
@[simp] theorem endOk_cmd_eq (D : Desc) (s : St) : endOk D s .cmd = ackOk D s := (endOk_eq D s).1

@[simp] abbrev Neutral (s s' : St) : Prop :=
  tr .ack s'.log = tr .ack s.log ∧ s'.state = s.state ∧ s'.writeStateAfter = s.writeStateAfter

theorem neutral_bal (s s' : St) (h : Neutral s s') : bal s' = bal s ∧ owes s' = owes s := by
  simp only [bal, answered, owes, h.1, h.2.1, h.2.2, and_self]

@[simp] theorem applyNested_neutral (D : Desc) (f : Fsm) (e : Bool) (acts : List Nested) (s : St) :
    Neutral s (applyNested D f e s acts) := by
  simp
@[simp] theorem varWriteCb_neutral (D : Desc) (s : St) (v : VarD) (i : SvcIn) : Neutral s (varWriteCb D s v i).1 := by
  unfold varWriteCb; split <;> simp [St.emit, cls]
@[simp] theorem varReadCb_neutral (D : Desc) (s : St) (v : VarD) (i : SvcIn) : Neutral s (varReadCb D s .cmd v i).1 := by
  simp only [varReadCb]; split <;> simp [St.emit, cls]

theorem owes_of_state (s : St) (h1 : s.state ≠ .idle) (h2 : s.state ≠ .afterFlushReset) (h3 : s.state ≠ .flushWait)
    (h4 : s.state ≠ .flushWrite) : owes s = 1 := by
  simp [owes, h1, h2, h3, h4]

theorem owes_le_one (s : St) : owes s ≤ 1 := by unfold owes; split <;> omega

theorem owes_state {x : St} (st : CState) (hs : x.state = st)
    (h : st ∉ [.idle, .afterFlushReset, .flushWait, .flushWrite] := by decide) : owes x = 1 := by
  subst hs
  simp only [List.mem_cons, List.not_mem_nil, or_false, not_or] at h
  exact owes_of_state x h.1 h.2.1 h.2.2.1 h.2.2.2

theorem owes_mem {x : St} {l : List CState} (hm : x.state ∈ l)
    (h : ∀ st ∈ l, st ∉ [.idle, .afterFlushReset, .flushWait, .flushWrite] := by decide) : owes x = 1 :=
  owes_state _ rfl (h _ hm)

/-- starting a result code pays the debt -/
theorem bal_ack (D : Desc) {x s : St} (ha : tr .ack x.log = tr .ack s.log) (ho : owes s = 1) :
    bal (ackError D x) = bal s ∧ bal (ackOk D x) = bal s := by
  simp only [bal, answered, (ackError_spec D x).2.2, (ackOk_spec D x).2.2, tr_append, ha, ho]
  simp [owes, cls, List.filter_cons]

/-- no result code started and the debt stands -/
theorem bal_plain {x s : St} (hx : owes x = 1) (ha : tr .ack x.log = tr .ack s.log) (ho : owes s = 1) : bal x = bal s := by
  simp only [bal, answered, ha, hx, ho]

theorem bal_ite {s : St} {c : Prop} [Decidable c] {a b : St} (ha : c → bal a = bal s) (hb : ¬ c → bal b = bal s) :
    bal (if c then a else b) = bal s := rel_ite (R := fun x : St => bal x = bal s) ha hb

theorem printResponseTest_bal (D : Desc) (s : St) (h : owes s = 1) : bal (printResponseTest D s .cmd).1 = bal s := by
  -- whatever was printed: failure leaves the state, success enters TEST_LOOP or the flush of the text
  have tail : ∀ (c : CmdD) (r : St × Bool), Neutral s r.1 →
      bal (if !r.2 then r.1 else if c.hasTest then setStateTL r.1 .cmd else startFlush r.1 .cmd .ok) = bal s := fun c r n =>
    bal_ite (fun _ => (neutral_bal s r.1 n).1) fun _ =>
      bal_ite (fun _ => bal_plain (owes_state .testLoop (by simp [setStateTL])) (by simpa [setStateTL] using n.1) h) fun _ =>
        bal_plain (by simp [owes]) (by simpa using n.1) h
  simp only [printResponseTest, apply_ite Prod.fst]
  exact tail _ _ (by split <;> simp)

/-- `next_format_var` starts a result code only when the separator does not fit -/
theorem nextFormatVar_bal (D : Desc) (s : St) (h : owes s = 1) : bal (nextFormatVar D s .cmd).1 = bal s := by
  simp only [nextFormatVar, apply_ite Prod.fst]
  exact bal_ite (fun _ => bal_ite (fun _ => (bal_ack D (by simp [St.setIdx]) h).1) fun _ => (neutral_bal s _ (by simp [St.setIdx])).1)
    fun _ => (neutral_bal s _ (by simp [St.setIdx])).1

theorem startFormatTest_bal (D : Desc) (s : St) (h : owes s = 1) : bal (startFormatTest D s .cmd) = bal s := by
  simp only [startFormatTest]
  generalize hr : printAll D _ .cmd _ = r
  have n : Neutral s r.1 := by subst hr; simp
  have b := neutral_bal s r.1 n
  exact bal_ite (fun _ => (bal_ack D n.1 h).1) fun _ => bal_ite (fun _ => bal_plain (owes_state .formatTestArgs rfl) n.1 h) fun _ =>
    bal_ite (fun _ => (printResponseTest_bal D r.1 (b.2.trans h)).trans b.1) fun _ => (bal_ack D (by simpa using n.1) h).1

theorem startFormatRead_bal (D : Desc) (s : St) (h : owes s = 1) : bal (startFormatRead D s .cmd) = bal s := by
  simp only [startFormatRead]
  generalize hr : printAll D _ .cmd _ = r
  have n : Neutral s r.1 := by subst hr; simp
  exact bal_ite (fun _ => (bal_ack D n.1 h).1) fun _ => bal_ite (fun _ => bal_plain (owes_state .formatReadArgs rfl) n.1 h) fun _ =>
    bal_ite (fun _ => (bal_ack D n.1 h).1) fun _ =>
      bal_plain (owes_state .readLoop (by simp [setStateRL])) (by simpa [setStateRL] using n.1) h

theorem startPrintCmdList_bal (D : Desc) (s : St) (h : owes s = 1) : bal (startPrintCmdList D s) = bal s :=
  bal_ite (fun _ => (bal_ack D rfl h).2) fun _ => bal_plain (owes_state .printCmd rfl) rfl h

theorem doCall_bal (D : Desc) (s : St) (c : Call) (h : owes s = 1) (hc : c ≠ .startFlush .reset) :
    bal (doCall D .cmd s c) = bal s := by
  cases c with
  | ackOk | endOk => exact (bal_ack D rfl h).2
  | ackError | endError => exact (bal_ack D rfl h).1
  | enableHold => exact bal_plain (owes_state .hold rfl) rfl h
  | startPrintCmdList => exact startPrintCmdList_bal D s h
  | startFlush a => exact bal_plain (by cases a <;> simp [owes, doCall] at hc ⊢) (by simp [doCall]) h
  | startFormatRead => exact startFormatRead_bal D s h
  | startFormatTest => exact startFormatTest_bal D s h
  | holdExit ok => exact (neutral_bal s _ (by simp [doCall])).1

/-- a handler's return code leads to at most one result code, and then as the last call -/
theorem callsOf_bal (D : Desc) (k : HKind) (n : Spec.Next) (s : St) (h : owes s = 1) :
    bal (doCalls D .cmd s (Spec.callsOf k n)) = bal s := by
  cases n with
  | releaseThen ok =>
    have x := neutral_bal s (doCall D .cmd s (.holdExit ok)) (by simp [doCall])
    exact (doCall_bal D _ (if ok then .endOk else .endError) (x.2.trans h) (by cases ok <;> decide)).trans x.1
  | _ => cases k <;> simp only [Spec.callsOf, doCalls] <;> exact doCall_bal D s _ h (by decide)

theorem loopStep_bal (D : Desc) (k : HKind) (s : St) (ans : HAnswer) (h : owes s = 1) : bal (loopStep D .cmd k s ans) = bal s := by
  simp only [loopStep, loopTable_eq]
  generalize hu : applyNested D .cmd k.edits _ ans.acts = u
  have x := neutral_bal s u (by subst hu; simp [handlerEv_cls, cbCls])
  exact (callsOf_bal D k _ u (x.2.trans h)).trans x.1

/-- a line begins: the machine leaves IDLE -/
def begins (s s' : St) : Nat := if s.state = .idle ∧ s'.state ≠ .idle then 1 else 0

/-- beginning a line: the first byte other than CR/LF read in IDLE; in the other reading states the line's
result code is owed, and is started by the bytes that end the line there -/
theorem readerBody_bal (D : Desc) (t : St) (hr : Reading t.state) :
    bal (readerBody D t.state t) = bal t + begins t (readerBody D t.state t) := by
  by_cases hi : t.state = .idle
  · have b1 : ∀ x : St, x.log = t.log → owes x = 1 → bal x = bal t + 1 := fun x hl hx => by
      simp only [bal, answered, hl, hx]; simp [owes, hi]
    have walk := @rel_ite St fun x => bal x = bal t + if x.state ≠ .idle then 1 else 0
    rw [hi]
    simp only [readerBody, begins, hi, true_and]
    exact walk (fun _ => b1 _ rfl (owes_state .parsePrefix rfl)) fun _ => walk (fun _ => by simp [hi]) fun _ => b1 _ rfl (owes_state .error rfl)
  · have ho : owes t = 1 := by
      rcases hr with hs | hs | hs | hs | hs | hs | hs
      · exact absurd hs hi
      all_goals exact owes_state _ hs
    have cr : bal { t with crFlag := true } = bal t := rfl
    have err : bal { t with state := .error } = bal t := bal_plain (owes_state .error rfl) rfl ho
    have ack := bal_ack D (x := t) rfl ho
    have to : ∀ {x : St} (st : CState) (_ : x.state = st) (_ : x.log = t.log)
        (_ : st ∉ [.idle, .afterFlushReset, .flushWait, .flushWrite] := by decide), bal x = bal t :=
      fun st hs hl hst => bal_plain (owes_state st hs hst) (by rw [hl]) ho
    simp only [begins, hi, false_and, if_false, Nat.add_zero]
    rcases hr with hs | hs | hs | hs | hs | hs | hs <;> rw [hs] <;> simp only [readerBody]
    · exact absurd hs hi
    · refine bal_ite (fun _ => to .parseCommandChar rfl (by simp)) fun _ => ?_
      exact bal_ite (fun _ => ack.1) fun _ => bal_ite (fun _ => cr) fun _ => err
    · refine bal_ite (fun _ => ?_) fun _ => bal_ite (fun _ => cr) fun _ => bal_ite (fun _ => ?_) fun _ => bal_ite (fun _ => ?_) fun _ => ?_
      · exact bal_ite (fun _ => to .searchCommand rfl rfl) fun _ => ack.2
      · exact bal_ite (fun _ => err) fun _ => to .waitReadAck rfl rfl
      · exact bal_ite (fun _ => err) fun _ => to .searchCommand rfl rfl
      · exact bal_ite (fun _ => to .updateCommandState rfl rfl) fun _ => err
    · exact bal_ite (fun _ => to .searchCommand rfl rfl) fun _ => bal_ite (fun _ => cr) fun _ => err
    · -- the bytes of the argument text go into the buffer; the LF starts the arguments' evaluation or a result code
      have hu : (t.chkUb t.cmd.isSome).log = t.log ∧ (t.chkUb t.cmd.isSome).state = .parseCommandArgs := by simp [hs]
      generalize t.chkUb t.cmd.isSome = u at hu
      have ae := (bal_ack D (congrArg (tr .ack) hu.1) ho).1
      refine bal_ite (fun _ => ?_) fun _ => bal_ite (fun _ => to _ hu.2 hu.1) fun _ => bal_ite (fun _ => to .waitTestAck rfl hu.1) fun _ =>
        bal_ite (fun _ => to .error rfl hu.1) fun _ => bal_ite (fun _ => to _ (by simpa using hu.2) (by simpa using hu.1)) fun _ =>
          to .error rfl (by simpa using hu.1)
      refine bal_ite (fun _ => ae) fun _ => bal_ite (fun _ => ?_) fun _ => bal_ite (fun _ => ae) fun _ => to .writeLoop rfl hu.1
      exact bal_ite (fun _ => ae) fun _ => to .parseWriteArgs rfl hu.1
    · exact bal_ite (fun _ => startFormatTest_bal D t ho) fun _ => bal_ite (fun _ => cr) fun _ => err
    · exact bal_ite (fun _ => ack.1) fun _ => bal_ite (fun _ => cr) fun _ => rfl

theorem commandFound_bal (D : Desc) (s : St) (hs : s.state = .commandFound) : bal (commandFound D s).1 = bal s := by
  have ho := owes_state _ hs
  have ae := (bal_ack D (x := s.chkUb s.cmd.isSome) (by simp) ho).1
  simp only [commandFound]
  split
  · exact bal_ite (fun _ => ae) fun _ => bal_ite (fun _ => ae) fun _ => bal_plain (owes_state .runLoop rfl) (by simp) ho
  · have n := neutral_bal s (s.chkUb s.cmd.isSome) (by simp)
    exact bal_ite (fun _ => ae) fun _ => (startFormatRead_bal D _ (n.2.trans ho)).trans n.1
  · exact bal_plain (owes_state .parseCommandArgs rfl) (by simp) ho
  · exact ae

theorem parseWriteArgs_bal (D : Desc) (s : St) (i : SvcIn) (hs : s.state = .parseWriteArgs) :
    bal (parseWriteArgs D s i).1 = bal s := by
  have ho := owes_state _ hs
  simp only [parseWriteArgs, apply_ite Prod.fst]
  exact bal_ite (fun _ => (bal_ack D (by simp) ho).1) fun _ => bal_ite (fun _ => (bal_ack D (by simp) ho).1) fun _ =>
    bal_ite (fun _ => bal_plain (owes_state .parseWriteArgs (by simp [hs])) (by simp) ho) fun _ =>
    bal_ite (fun _ => (bal_ack D (by simp) ho).1) fun _ => bal_ite (fun _ => (bal_ack D (by simp) ho).1) fun _ =>
    bal_ite (fun _ => (bal_ack D (by simp) ho).2) fun _ => bal_plain (owes_state .writeLoop rfl) (by simp) ho

theorem formatReadArgs_bal (D : Desc) (s : St) (i : SvcIn) (hs : s.state = .formatReadArgs) :
    bal (formatReadArgs D s .cmd i).1 = bal s := by
  have ho := owes_state _ hs
  simp only [formatReadArgs, apply_ite Prod.fst]
  generalize hx : formatVar D _ .cmd _ = x
  have nx : Neutral s x.1 := by subst hx; simp
  have b := neutral_bal s x.1 nx
  have n := nextFormatVar_bal D x.1 (b.2.trans ho)
  refine bal_ite (fun _ => (bal_ack D (by simp) ho).1) fun _ => bal_ite (fun _ => (bal_ack D nx.1 ho).1) fun _ =>
    bal_ite (fun _ => n.trans b.1) fun hm => ?_
  rw [nextFormatVar_done D x.1 .cmd (by simpa using hm)]
  have l : tr .ack (x.1.setIdx .cmd (x.1.idx .cmd + 1)).log = tr .ack s.log := nx.1
  exact bal_ite (fun _ => bal_plain (owes_state .readLoop (by simp [setStateRL])) (by simpa [setStateRL] using l) ho) fun _ =>
    bal_plain (by simp [owes]) (by simpa using l) ho

theorem formatTestArgs_bal (D : Desc) (s : St) (hs : s.state = .formatTestArgs) :
    bal (formatTestArgs D s .cmd).1 = bal s := by
  have ho := owes_state _ hs
  simp only [formatTestArgs, apply_ite Prod.fst]
  generalize hx : formatInfoType D _ .cmd _ = x
  have nx : Neutral s x.1 := by subst hx; simp
  have b := neutral_bal s x.1 nx
  have n := nextFormatVar_bal D x.1 (b.2.trans ho)
  refine bal_ite (fun _ => (bal_ack D nx.1 ho).1) fun _ => bal_ite (fun _ => n.trans b.1) fun hm => ?_
  -- no further variable: the state still owes, and `print_response_test` starts no result code
  rw [nextFormatVar_done D x.1 .cmd (by simpa using hm)]
  have nx' : Neutral s (x.1.setIdx .cmd (x.1.idx .cmd + 1)) := nx
  have b' := neutral_bal s _ nx'
  exact bal_ite (fun _ => (printResponseTest_bal D _ (b'.2.trans ho)).trans b'.1) fun _ => (bal_ack D (by simpa using nx'.1) ho).1

theorem processHoldState_bal (D : Desc) (s : St) (hs : s.state = .hold) : bal (processHoldState D s).1 = bal s := by
  have a := bal_ack D (x := { s with holdFlag := false }) rfl (owes_state _ hs)
  simp only [processHoldState, apply_ite Prod.fst]
  exact bal_ite (fun _ => rfl) fun _ => bal_ite (fun _ => a.1) fun _ => a.2

theorem processIoWriteWait_bal (s : St) (hs : s.state = .flushWait) : bal (processIoWriteWait s).1 = bal s :=
  bal_ite (fun _ => by simp [bal, answered, owes, hs]) fun _ => rfl

/-- only the end of a unit changes the state: to the state the unit was started for, which owes what the flush owed -/
theorem processIoWrite_bal (D : Desc) (s : St) (i : SvcIn) (hs : s.state = .flushWrite) : bal (processIoWrite D s i).1 = bal s := by
  have keep : ∀ x : St, Neutral s x → bal x = bal s := fun x nx => (neutral_bal s x nx).1
  simp only [processIoWrite, apply_ite Prod.fst]
  refine bal_ite (fun _ => bal_ite (fun _ => keep _ (by simp)) fun _ => bal_ite (fun _ => keep _ (by simp)) fun _ =>
    bal_ite (fun _ => ?_) fun _ => keep _ (by simp)) fun _ => bal_ite (fun _ => keep _ (by simp [cls])) fun _ => keep _ (by simp [cls])
  simp only [bal, answered, owes, emit_log, tr_append, chk_ctl, hs]
  cases s.writeStateAfter <;> simp [After.toC, cls]

theorem printCmdList_bal (D : Desc) (s : St) (hs : s.state = .printCmd) : bal (printCmdList D s) = bal s := by
  have ho := owes_state _ hs
  -- the next command's entry, or the final OK behind the last
  have next : ∀ t : St, tr .ack t.log = tr .ack s.log →
      bal (if (cmdListNextCmd D t).2 then (cmdListNextCmd D t).1 else ackOk D (cmdListNextCmd D t).1) = bal s := fun t ht =>
    bal_ite (fun h => bal_plain (owes_state _ (cmdListNextCmd_state D t h)) (by simpa using ht) ho) fun _ =>
      (bal_ack D (by simpa using ht) ho).2
  -- one request form: its text is flushed, or does not fit
  have form : ∀ (t : St) (avail : Bool) (x : List Byte) (nx : CmdType), Neutral s t → bal (printCmdForm D t avail x nx) = bal s := by
    intro t avail x nx n
    have l : tr .ack (printCurrentCmdFullName D { t with position := 0 } x).1.log = tr .ack s.log := by simpa using n.1
    simp only [printCmdForm]
    exact bal_ite (fun _ => bal_ite (fun _ => (bal_ack D l ho).1) fun _ => bal_plain (by simp [owes]) (by simpa using l) ho)
      fun _ => (neutral_bal s _ n).1
  simp only [printCmdList]
  split
  · exact bal_ite (fun _ => next _ (by simp)) fun _ => (neutral_bal s _ (by simp)).1
  · exact form _ _ _ _ (by simp)
  · exact form _ _ _ _ (by simp)
  · exact form _ _ _ _ (by simp)
  · exact form _ _ _ _ (by simp)
  · exact next _ (by simp)

/-- **Every step of the command machine keeps `answered + owes` constant, except that beginning
a line adds one.**  Needs the hold coupling: a result code is never started while the hold flag
is up, so `reset_state` behind it returns to IDLE. -/
theorem commandService_bal (D : Desc) (s : St) (i : SvcIn) (hc : HoldCpl s) :
    bal (commandService D s i).1 = bal s + begins s (commandService D s i).1 := by
  by_cases hr : Reading s.state
  · -- the refused read and the stored byte log no result code and leave the state
    rw [commandService_reader i hr]
    refine reader_fst (P := fun x => bal x = bal s + begins s x) s i ?_ fun b => ?_
    · simp [begins, bal, answered, owes, cls]
    · have n := neutral_bal s (rdChar s b) (by simp [rdChar, cls])
      exact (readerBody_bal D (rdChar s b) hr).trans (congrArg (· + _) n.1)
  -- in every other state no line begins
  rw [show begins s (commandService D s i).1 = 0 from if_neg fun h => hr (.inl h.1)]
  unfold commandService
  cases hs : s.state <;> simp only
  case updateCommandState => exact bal_plain (owes_mem (hs ▸ updateCommand_state D s)) (by simp) (owes_state _ hs)
  case searchCommand =>
    refine bal_plain ?_ (by simp) (owes_state _ hs)
    rcases searchCommand_state D s with g | g | g
    · exact owes_state _ (g.trans hs)
    · exact owes_state _ g
    · exact owes_state _ g (by split <;> decide)
  case commandFound => exact commandFound_bal D s hs
  case commandNotFound => exact (bal_ack D rfl (owes_state _ hs)).1
  case parseWriteArgs => exact parseWriteArgs_bal D s i hs
  case formatReadArgs => exact formatReadArgs_bal D s i hs
  case formatTestArgs => exact formatTestArgs_bal D s hs
  case writeLoop => rw [processWriteLoop_eq]; exact loopStep_bal D .write s i.hc (owes_state _ hs)
  case readLoop => rw [processReadLoop_eq]; exact loopStep_bal D .read s i.hc (owes_state _ hs)
  case testLoop => rw [processTestLoop_eq]; exact loopStep_bal D .test s i.hc (owes_state _ hs)
  case runLoop => rw [processRunLoop_eq]; exact loopStep_bal D .run s i.hc (owes_state _ hs)
  case hold => exact processHoldState_bal D s hs
  case flushWait => exact processIoWriteWait_bal s hs
  case flushWrite => exact processIoWrite_bal D s i hs
  case afterFlushReset => simp [resetState, hc.flag (by simp [hs]), bal, answered, owes, cls, hs, isAck]
  case afterFlushOk => exact (bal_ack D rfl (owes_state _ hs)).2
  case afterFlushFormatRead => exact startFormatRead_bal D s (owes_state _ hs)
  case afterFlushFormatTest => exact startFormatTest_bal D s (owes_state _ hs)
  case printCmd => exact printCmdList_bal D s hs
  all_goals exact absurd (by simp [Reading, hs]) hr
end Cat
