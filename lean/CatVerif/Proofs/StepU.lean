/-
  Frame lemmas for the functions of the unsolicited machine, up to `unsolicitedEventsService`: it
  never stores into the command region and — provided its handlers do not answer HOLD
  (DESIGN.md 2.3) — never touches the command machine's control fields or the hold flag.
-/
import CatVerif.Proofs.Step
namespace Cat
open St

@[simp] abbrev KeepsCH (s s' : St) : Prop := SameC' s s' ∧ s'.position = s.position ∧ s'.holdFlag = s.holdFlag

@[simp] theorem ringPop_frame (D : Desc) (s : St) :
    let s' := ringPop D s
    KeepsC s s' ∧ KeepsU s s' ∧ SameBuf s s' ∧ SameH s s' ∧ SameMem s s' ∧ SameLog s s' ∧ s'.ring = s.ring ∧ s'.ub = s.ub := by
  simp [ringPop]

@[simp] theorem checkUnsolicitedBuffers_frame (D : Desc) (s : St) :
    let s' := checkUnsolicitedBuffers D s
    KeepsC s s' ∧ KeepsCR D s s' ∧ SameH s s' ∧ SameMem s s' ∧ s'.ring = s.ring ∧ LogsOnly [.pop, .flU] s s' := by
  simp only [checkUnsolicitedBuffers]; (repeat' split) <;> simp +contextual [cls]

@[simp] theorem unsolicitedProcessIoWriteWait_frame (s : St) :
    let s' := (unsolicitedProcessIoWriteWait s).1
    CtlU s s' ∧ SameLog s s' ∧ SameEvt s s' ∧ s'.uposition = s.uposition := by
  simp only [unsolicitedProcessIoWriteWait]; split <;> simp

@[simp] theorem unsolicitedProcessIoWrite_frame (D : Desc) (s : St) (i : SvcIn) :
    let s' := (unsolicitedProcessIoWrite D s i).1
    KeepsC s s' ∧ SameBuf s s' ∧ SameShared s s' ∧ LogsOnly [.wrU, .flU] s s' ∧ SameEvt s s' ∧ s'.ub = s.ub ∧
    s'.uwriteStateAfter = s.uwriteStateAfter ∧ (s'.ustate = s.ustate ∨ s'.ustate = s.uwriteStateAfter.toU) := by
  have walk := @rel_ite St (fun r => KeepsC s r ∧ SameBuf s r ∧ SameShared s r ∧ LogsOnly [.wrU, .flU] s r ∧
    SameEvt s r ∧ r.ub = s.ub ∧ r.uwriteStateAfter = s.uwriteStateAfter ∧ (r.ustate = s.ustate ∨ r.ustate = s.uwriteStateAfter.toU))
  simp only [unsolicitedProcessIoWrite, apply_ite Prod.fst]
  repeat' (with_reducible refine walk (fun _ => ?_) (fun _ => ?_))
  all_goals simp +contextual [cls]

/-- **The unsolicited machine never touches the command machine's control fields or the hold
flag**, as long as its handlers do not answer HOLD. -/
theorem unsolicitedEventsService_keepsC (D : Desc) (s : St) (i : SvcIn) (h : i.hu.ret ≠ 4) :
    KeepsCH s (unsolicitedEventsService D s i).1 := by
  unfold unsolicitedEventsService
  split <;> simp [h]

/-- **The unsolicited machine never stores into the command region** (whatever its handlers
answer, HOLD included). -/
theorem unsolicitedEventsService_keepsCR (D : Desc) (s : St) (i : SvcIn) :
    KeepsCR D s (unsolicitedEventsService D s i).1 := by
  unfold unsolicitedEventsService
  split <;> simp

theorem unsolicitedEventsService_lenE (D : Desc) (s : St) (i : SvcIn) :
    LenE s (unsolicitedEventsService D s i).1 := by
  unfold unsolicitedEventsService
  split <;> simp

/-- classes of events the unsolicited machine may log -/
def UnsK : List Cls := [.wrU, .cbU, .flU, .pop]

/-- the classes the unsolicited machine can log in one step from state `st` -/
def unsLogs : UState → List Cls
  | .idle => [.pop, .flU]
  | .formatReadArgs | .readLoop | .testLoop => [.flU, .cbU]
  | .flushWait | .afterFlushReset | .afterFlushOk | .afterFlushFormatRead => []
  | .flushWrite => [.wrU, .flU]
  | _ => [.flU]

theorem unsolicitedEventsService_logs (c : Cls) (D : Desc) (s : St) (i : SvcIn) (h : c ∉ unsLogs s.ustate)
    (hv : ApiFree c i.vu.acts) (hh : ApiFree c i.hu.acts) : Quiet c s (unsolicitedEventsService D s i).1 := by
  unfold unsolicitedEventsService
  split <;> rename_i hs <;> simp only [hs, unsLogs] at h <;> simp at h <;> simp [h, hv, hh]

theorem unsLogs_sub (st : UState) : ∀ c ∈ unsLogs st, c ∈ UnsK := by
  cases st <;> decide

theorem unsolicitedEventsService_quiet (c : Cls) (h : c ∉ UnsK) (D : Desc) (s : St) (i : SvcIn)
    (hv : ApiFree c i.vu.acts) (hh : ApiFree c i.hu.acts) : Quiet c s (unsolicitedEventsService D s i).1 :=
  unsolicitedEventsService_logs c D s i (fun hc => h (unsLogs_sub _ c hc)) hv hh

theorem unsolicitedEventsService_no_write (D : Desc) (s : St) (i : SvcIn) (h : s.ustate ≠ .flushWrite) :
    Quiet .wrU s (unsolicitedEventsService D s i).1 :=
  unsolicitedEventsService_logs .wrU D s i (by revert h; cases s.ustate <;> simp [unsLogs])
    (.of_ne (by decide) (by decide)) (.of_ne (by decide) (by decide))

theorem unsolicitedEventsService_kept {D : Desc} {i : SvcIn} {P : St → Prop} (h : CbKept D [i.hu.acts, i.vu.acts] P)
    (s : St) (hp : s.ustate = .idle → P (checkUnsolicitedBuffers D s)) (p : P s) : P (unsolicitedEventsService D s i).1 := by
  cases hs : s.ustate <;> simp only [unsolicitedEventsService, hs]
  case idle => exact hp hs
  case formatReadArgs => exact formatReadArgs_kept h .uns (by simp [SvcIn.v]) s p
  case readLoop => rw [processReadLoop_eq]; exact loopStep_kept h .uns (by simp [SvcIn.h]) .read (fun _ => .inl rfl) s p
  case testLoop => rw [processTestLoop_eq]; exact loopStep_kept h .uns (by simp [SvcIn.h]) .test (fun _ => .inr rfl) s p
  all_goals exact h.congr (by simp [SameQ]) p

end Cat
