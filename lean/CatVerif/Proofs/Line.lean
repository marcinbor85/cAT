/-
  The line discipline of the command machine (C01), as two invariants of its step about the last
  consumed byte: behind a line's LF it is that LF (`LineCpl`, with the request-type bookkeeping that
  makes this inductive); while a line is being received it is not the LF (`MidLine`).
-/
import CatVerif.Proofs.Graph
namespace Cat
open St

theorem applyNested_cc (D : Desc) (f : Fsm) (e : Bool) (acts : List Nested) : ∀ s : St,
    (applyNested D f e s acts).currentChar = s.currentChar := by
  simp

/-- states the machine can only be in after the LF of the current line has been consumed -/
def PostLF (st : CState) : Prop :=
  st = .commandNotFound ∨ st = .parseWriteArgs ∨ st = .formatReadArgs ∨ st = .formatTestArgs ∨ st = .writeLoop ∨
  st = .readLoop ∨ st = .testLoop ∨ st = .runLoop ∨ st = .hold ∨ st = .flushWait ∨ st = .flushWrite ∨
  st = .afterFlushReset ∨ st = .afterFlushOk ∨ st = .afterFlushFormatRead ∨ st = .afterFlushFormatTest ∨ st = .printCmd

instance (st : CState) : Decidable (PostLF st) := by unfold PostLF; exact inferInstance

/-- the coupling between the state, the request type and the last consumed byte:
* behind the LF the last consumed byte *is* that LF — nothing has been read since;
* the search runs either before the arguments (WRITE) or after the LF (RUN, READ);
* while the name is typed the type is RUN; after `?` it is READ. -/
structure LineCpl (s : St) : Prop where
  post : PostLF s.state → s.currentChar = 10
  search : (s.state = .searchCommand ∨ s.state = .commandFound) →
    (s.cmdType = .write ∨ ((s.cmdType = .run ∨ s.cmdType = .read) ∧ s.currentChar = 10))
  name : (s.state = .parseCommandChar ∨ s.state = .updateCommandState) → s.cmdType = .run
  rdack : s.state = .waitReadAck → s.cmdType = .read

theorem state_kinds (st : CState) :
    Reading st ∨ PostLF st ∨ st = .updateCommandState ∨ st = .searchCommand ∨ st = .commandFound := by
  cases st <;> decide

theorem Reading.not_postLF {st : CState} (h : Reading st) : ¬ PostLF st := by
  rcases h with rfl | rfl | rfl | rfl | rfl | rfl | rfl <;> decide

theorem LineCpl.plain {s : St} (st : CState) (hs : s.state = st)
    (h : st ∈ [.idle, .parsePrefix, .error, .parseCommandArgs, .waitTestAck] := by decide) : LineCpl s := by
  subst hs
  simp only [List.mem_cons, List.not_mem_nil, or_false] at h
  rcases h with h | h | h | h | h <;> exact ⟨by simp [h, PostLF], by simp [h], by simp [h], by simp [h]⟩

theorem LineCpl.behind {s : St} (st : CState) (hs : s.state = st) (hc : s.currentChar = 10) (hp : PostLF st := by decide) :
    LineCpl s := by
  subst hs
  refine ⟨fun _ => hc, fun e => ?_, fun e => ?_, fun e => ?_⟩
  · rcases e with e | e <;> simp [e, PostLF] at hp
  · rcases e with e | e <;> simp [e, PostLF] at hp
  · simp [e, PostLF] at hp

theorem LineCpl.searching {s : St} (hs : s.state = .searchCommand ∨ s.state = .commandFound)
    (ht : s.cmdType = .write ∨ ((s.cmdType = .run ∨ s.cmdType = .read) ∧ s.currentChar = 10)) : LineCpl s := by
  rcases hs with h | h <;> exact ⟨by simp [h, PostLF], fun _ => ht, by simp [h], by simp [h]⟩

theorem LineCpl.naming {s : St} (hs : s.state = .parseCommandChar ∨ s.state = .updateCommandState) (ht : s.cmdType = .run) :
    LineCpl s := by
  rcases hs with h | h <;> exact ⟨by simp [h, PostLF], by simp [h], fun _ => ht, by simp [h]⟩

theorem LineCpl.asking {s : St} (hs : s.state = .waitReadAck) (ht : s.cmdType = .read) : LineCpl s :=
  ⟨by simp [hs, PostLF], by simp [hs], by simp [hs], fun _ => ht⟩

theorem ackOk_lineCpl (D : Desc) (t : St) (h : t.currentChar = 10) : LineCpl (ackOk D t) :=
  .behind _ (ackOk_state D t).1 (by simpa using h)
theorem ackError_lineCpl (D : Desc) (t : St) (h : t.currentChar = 10) : LineCpl (ackError D t) :=
  .behind _ (ackError_state D t).1 (by simpa using h)

theorem startFormatTest_postLF (D : Desc) (t : St) : PostLF (startFormatTest D t .cmd).state :=
  (by decide : ∀ st ∈ [CState.flushWait, .formatTestArgs, .testLoop], PostLF st) _ (startFormatTest_cmd_state D t)

theorem commandFound_postLF (D : Desc) (s : St) (hw : s.cmdType ≠ .write) : PostLF (commandFound D s).1.state := by
  have g := commandFound_state D s
  rw [if_neg hw] at g
  exact (by decide : ∀ st ∈ [CState.flushWait, .runLoop, .formatReadArgs, .readLoop], PostLF st) _ g

/-- in a reading state the coupling does not look at the last consumed byte -/
theorem rdChar_lineCpl (s : St) (b : Byte) (hr : Reading s.state) (h : LineCpl s) : LineCpl (rdChar s b) :=
  ⟨fun p => absurd p hr.not_postLF, fun e => by rcases e with e | e <;> simp [Reading, show s.state = _ from e] at hr, h.name, h.rdack⟩

theorem readerBody_lineCpl (D : Desc) (t : St) (hr : Reading t.state) (h : LineCpl t) : LineCpl (readerBody D t.state t) := by
  have cr : LineCpl { t with crFlag := true } := ⟨h.post, h.search, h.name, h.rdack⟩
  have err : LineCpl { t with state := .error } := .plain .error rfl
  rcases hr with hs | hs | hs | hs | hs | hs | hs <;> rw [hs] <;> simp only [readerBody]
  · exact rel_ite (fun _ => .plain .parsePrefix rfl) fun _ => rel_ite (fun _ => h) fun _ => err
  · refine rel_ite (fun _ => .naming (.inl rfl) (by simp [prepareParseCommand])) fun _ => ?_
    exact rel_ite (fun e => ackError_lineCpl D t (eq_of_beq e)) fun _ => rel_ite (fun _ => cr) fun _ => err
  · have hn := h.name (.inl hs)
    refine rel_ite (fun e => ?_) fun _ => rel_ite (fun _ => cr) fun _ => rel_ite (fun _ => ?_) fun _ => rel_ite (fun _ => ?_) fun _ => ?_
    · exact rel_ite (fun _ => .searching (.inl rfl) (.inr ⟨.inl hn, eq_of_beq e⟩)) fun _ => ackOk_lineCpl D t (eq_of_beq e)
    · exact rel_ite (fun _ => err) fun _ => .asking rfl rfl
    · exact rel_ite (fun _ => err) fun _ => .searching (.inl rfl) (.inl rfl)
    · exact rel_ite (fun _ => .naming (.inr rfl) hn) fun _ => err
  · refine rel_ite (fun e => .searching (.inl rfl) (.inr ⟨.inr (h.rdack hs), eq_of_beq e⟩)) fun _ => ?_
    exact rel_ite (fun _ => cr) fun _ => err
  · -- the arguments end at the LF; until then every byte keeps the state or leads to a state without side condition
    have hu : (t.chkUb t.cmd.isSome).state = .parseCommandArgs := by simpa using hs
    generalize t.chkUb t.cmd.isSome = u at hu
    have ae := fun e => ackError_lineCpl D u (eq_of_beq e)
    refine rel_ite (fun e => ?_) fun _ => rel_ite (fun _ => .plain _ hu) fun _ => rel_ite (fun _ => .plain .waitTestAck rfl) fun _ =>
      rel_ite (fun _ => .plain .error rfl) fun _ => rel_ite (fun _ => .plain .parseCommandArgs (by simpa using hu)) fun _ => .plain .error rfl
    refine rel_ite (fun _ => ae e) fun _ => rel_ite (fun _ => ?_) fun _ => rel_ite (fun _ => ae e) fun _ => .behind .writeLoop rfl (eq_of_beq e)
    exact rel_ite (fun _ => ae e) fun _ => .behind .parseWriteArgs rfl (eq_of_beq e)
  · refine rel_ite (fun e => ?_) fun _ => rel_ite (fun _ => cr) fun _ => err
    exact .behind _ rfl (by simpa using eq_of_beq e) (startFormatTest_postLF D t)
  · exact rel_ite (fun e => ackError_lineCpl D t (eq_of_beq e)) fun _ => rel_ite (fun _ => cr) fun _ => h

theorem updateCommand_lineCpl (D : Desc) (s : St) (hs : s.state = .updateCommandState) (h : LineCpl s) :
    LineCpl (updateCommand D s).1 := by
  show LineCpl (updateAdvance D _)
  generalize e : updateLane D _ = x
  have hx : x.state = .updateCommandState := by simp [← e, hs]
  have ht : x.cmdType = .run := by simp [← e, h.name (.inr hs)]
  -- the sweep goes on, returns to the name, or (implicit write) starts the search for a WRITE request
  simp only [updateAdvance]
  exact rel_ite (fun _ => rel_ite (fun _ => .naming (.inl rfl) ht) fun _ => .searching (.inl rfl) (.inl rfl)) fun _ => .naming (.inr hx) ht

theorem searchCommand_lineCpl (D : Desc) (s : St) (hs : s.state = .searchCommand) (h : LineCpl s) :
    LineCpl (searchCommand D s).1 := by
  have ec : (searchCommand D s).1.currentChar = s.currentChar := by simp
  have hn : (searchCommand D s).1.cmdType = .write ∨
      (((searchCommand D s).1.cmdType = .run ∨ (searchCommand D s).1.cmdType = .read) ∧ (searchCommand D s).1.currentChar = 10) := by
    simp only [searchCommand_frame]; exact h.search (.inl hs)
  rcases searchCommand_state D s with g | g | g
  · exact .searching (.inl (g.trans hs)) hn
  · exact .searching (.inr g) hn
  · -- giving up: behind the LF into COMMAND_NOT_FOUND, before it into the error state
    by_cases h10 : s.currentChar = 10
    · exact .behind .commandNotFound (by rw [g, if_pos h10]) (ec.trans h10)
    · exact .plain .error (by rw [g, if_neg h10])

theorem commandFound_lineCpl (D : Desc) (s : St) (hs : s.state = .commandFound) (h : LineCpl s) :
    LineCpl (commandFound D s).1 := by
  rcases h.search (.inr hs) with hw | ⟨ht, hc⟩
  · have g := commandFound_state D s
    rw [if_pos hw, List.mem_singleton] at g
    exact .plain _ g
  · exact .behind _ rfl (by simpa using hc) (commandFound_postLF D s (by rcases ht with e | e <;> simp [e]))

theorem postLF_succ (s : St) (hp : PostLF s.state) : ∀ st ∈ cmdSucc s, PostLF st ∨ st = .idle := by
  unfold PostLF at hp
  unfold cmdSucc
  rcases hp with h | h | h | h | h | h | h | h | h | h | h | h | h | h | h | h <;> simp only [h] <;> try decide
  · split <;> decide
  · cases s.writeStateAfter <;> decide

theorem commandService_lineCpl (D : Desc) (s : St) (i : SvcIn) (h : LineCpl s) : LineCpl (commandService D s i).1 := by
  rcases state_kinds s.state with hr | hp | hs | hs | hs
  · rw [commandService_reader i hr]
    exact reader_fst s i ⟨h.post, h.search, h.name, h.rdack⟩ fun b => readerBody_lineCpl D (rdChar s b) hr (rdChar_lineCpl s b hr h)
  · -- behind the LF nothing is read, and no successor state carries a side condition
    have hc : (commandService D s i).1.currentChar = 10 := by
      rw [commandService_cc D s i (fun hr => hr.not_postLF hp)]; exact h.post hp
    rcases postLF_succ s hp _ (commandService_succ D s i) with g | g
    · exact .behind _ rfl hc g
    · exact .plain _ g
  · simp only [commandService, hs]; exact updateCommand_lineCpl D s hs h
  · simp only [commandService, hs]; exact searchCommand_lineCpl D s hs h
  · simp only [commandService, hs]; exact commandFound_lineCpl D s hs h

/-- states in which a line is partially received (the sweep and the search for a WRITE request
run before the LF) -/
def MidSet (s : St) : Prop :=
  s.state = .parsePrefix ∨ s.state = .parseCommandChar ∨ s.state = .updateCommandState ∨ s.state = .waitReadAck ∨
  s.state = .waitTestAck ∨ s.state = .parseCommandArgs ∨ s.state = .error ∨
  ((s.state = .searchCommand ∨ s.state = .commandFound) ∧ s.cmdType = .write)

def MidLine (s : St) : Prop := MidSet s → s.currentChar ≠ 10

theorem MidLine.of_not {s : St} (h : ¬ MidSet s) : MidLine s := fun m => absurd m h

theorem MidLine.of_ne {s : St} (h : s.currentChar ≠ 10) : MidLine s := fun _ => h

theorem MidLine.of_state {s : St} (st : CState) (hs : s.state = st) (h : PostLF st ∨ st = .idle := by decide) : MidLine s := by
  subst hs
  refine .of_not fun m => ?_
  rcases h with h | h
  · unfold PostLF at h
    rcases m with m | m | m | m | m | m | m | ⟨m | m, _⟩ <;> simp [m] at h
  · simp [MidSet, h] at m

theorem MidLine.of_search {s : St} (hs : s.state = .searchCommand ∨ s.state = .commandFound) (ht : s.cmdType ≠ .write) : MidLine s :=
  .of_not (by rcases hs with hs | hs <;> simp [MidSet, hs, ht])

/-- on the LF every reading state leaves the set; any other byte is then the last consumed byte -/
theorem readerBody_mid (D : Desc) (t : St) (hr : Reading t.state) (hl : LineCpl t) : MidLine (readerBody D t.state t) := by
  by_cases h10 : t.currentChar = 10
  · have ack : MidLine (ackError D t) ∧ MidLine (ackOk D t) := ⟨.of_state .flushWait (by simp), .of_state .flushWait (by simp)⟩
    rcases hr with hs | hs | hs | hs | hs | hs | hs <;> rw [hs] <;>
      simp only [readerBody, chkUb_ctl, h10, Nat.reduceBEq, Bool.false_eq_true, if_true, if_false, Bool.or_false]
    · exact .of_state _ hs
    · exact ack.1
    · exact rel_ite (fun _ => .of_search (.inl rfl) (by simp [hl.name (.inl hs)])) fun _ => ack.2
    · exact .of_search (.inl rfl) (by simp [hl.rdack hs])
    · have ae : MidLine (ackError D (t.chkUb t.cmd.isSome)) := .of_state .flushWait (by simp)
      exact rel_ite (fun _ => ae) fun _ => rel_ite (fun _ => rel_ite (fun _ => ae) fun _ => .of_state .parseWriteArgs rfl) fun _ =>
        rel_ite (fun _ => ae) fun _ => .of_state .writeLoop rfl
    · exact .of_state _ rfl (.inl (startFormatTest_postLF D t))
    · exact ack.1
  · exact .of_ne ((readerBody_frame D _ t).2.2 ▸ h10)

theorem searchCommand_mid (D : Desc) (s : St) (hs : s.state = .searchCommand) (h : MidLine s) : MidLine (searchCommand D s).1 := by
  have ec : (searchCommand D s).1.currentChar = s.currentChar := by simp
  have et : (searchCommand D s).1.cmdType = s.cmdType := by simp
  by_cases hw : s.cmdType = .write
  · exact .of_ne (ec ▸ h (by simp [MidSet, hs, hw]))
  · -- not a WRITE request: the only way into the set is the error exit, taken when the byte is not the LF
    rcases searchCommand_state D s with g | g | g
    · exact .of_search (.inl (g.trans hs)) (et ▸ hw)
    · exact .of_search (.inr g) (et ▸ hw)
    · by_cases h10 : s.currentChar = 10
      · exact .of_state .commandNotFound (by rw [g, if_pos h10])
      · exact .of_ne (ec ▸ h10)

theorem commandFound_mid (D : Desc) (s : St) (hs : s.state = .commandFound) (h : MidLine s) : MidLine (commandFound D s).1 := by
  by_cases hw : s.cmdType = .write
  · exact .of_ne (by simpa using h (by simp [MidSet, hs, hw]))
  · exact .of_state _ rfl (.inl (commandFound_postLF D s hw))

theorem commandService_mid (D : Desc) (s : St) (i : SvcIn) (h : MidLine s) (hl : LineCpl s) : MidLine (commandService D s i).1 := by
  rcases state_kinds s.state with hr | hp | hs | hs | hs
  · rw [commandService_reader i hr]
    exact reader_fst s i h fun b => readerBody_mid D (rdChar s b) hr (rdChar_lineCpl s b hr hl)
  · exact .of_state _ rfl (postLF_succ s hp _ (commandService_succ D s i))
  · simp only [commandService, hs]
    exact .of_ne (by simpa using h (by simp [MidSet, hs]))
  · simp only [commandService, hs]; exact searchCommand_mid D s hs h
  · simp only [commandService, hs]; exact commandFound_mid D s hs h

end Cat
