/-
  The parser at rest (C01): since the last consumed byte is not the LF while a line is being received
  (`MidLine`, kept along every history), a parser that rests in a state waiting for input, with an LF as
  the last consumed byte, rests in IDLE: nothing is owed.
-/
import CatVerif.Proofs.LineHist
namespace Cat
open St

theorem runOps_mid (ops : List Op) (w : World) (hok : ∀ op ∈ ops, OpOk op) (h : LineInv w.s) (m : MidLine w.s) :
    MidLine (runOps w ops).1.s :=
  (runOps_inv (I := fun a => LineInv a.s ∧ MidLine a.s)
    (fun a op hop h => ⟨(apply_line a op hop h.1).1, (apply_line a op hop h.1).2.2 h.2⟩) ops w hok ⟨h, m⟩).2

/-- **At rest behind an LF nothing is owed**: if the command machine is in a state that waits for
input and the last byte it consumed was an LF, it is in IDLE. -/
theorem idle_of_rest {s : St} (m : MidLine s) (hr : Reading s.state) (hc : s.currentChar = 10) : s.state = .idle := by
  unfold Reading at hr
  rcases hr with h | h | h | h | h | h | h
  · exact h
  all_goals exact absurd hc (m (by simp [MidSet, h]))

theorem idle_line {s : St} (hs : s.state = .idle) (hf : s.holdFlag = false) : LineInv s ∧ MidLine s ∧ owes s = 0 :=
  ⟨⟨by simp [HoldCpl, hs, hf], .plain _ hs⟩, .of_state _ hs, by simp [owes, hs]⟩

/-- **Every complete line has been answered when the parser comes to rest**: from a world that satisfies the line
invariants and owes no answer, a history that ends waiting for input behind an LF ends in IDLE, and the result
codes started equal the lines begun. -/
theorem answered_at_rest (w : World) (ops : List Op) (hok : ∀ op ∈ ops, OpOk op) (hinv : LineInv w.s) (hmid : MidLine w.s)
    (howe : owes w.s = 0) (hr : Reading (runOps w ops).1.s.state) (hc : (runOps w ops).1.s.currentChar = 10) :
    (runOps w ops).1.s.state = .idle ∧ acksIn (runOps w ops).2 = linesBegun w ops := by
  have hid := idle_of_rest (runOps_mid ops w hok hinv hmid) hr hc
  have acc := (runOps_line ops w hok hinv).2
  rw [show owes (runOps w ops).1.s = 0 by simp [owes, hid], howe] at acc
  exact ⟨hid, by omega⟩

end Cat
