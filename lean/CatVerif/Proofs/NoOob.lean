/-
  No access outside the object it belongs to (C03): the `oob` flag stays false.  The ghost flag is
  raised by every checked accessor of the model (`setB`, `slotWrite`, `St.chk`) at exactly the places
  where the C code would touch memory outside the working buffer region of the acting machine, a
  variable's `data_size` bytes, the "\r\n" literal or the event ring.  This file proves the
  step-level facts: text termination (`NulAt`, `HasNul`), the print layer, the output cursor, the
  match-state lanes, the parsers' read cursor.
-/
import CatVerif.Proofs.NoUb
import CatVerif.Proofs.ParseBuf
import CatVerif.Proofs.RingInvP
import CatVerif.Proofs.Mem
namespace Cat
open St

def HasNul (D : Desc) (s : St) (f : Fsm) (p : Nat) : Prop := ∃ n, p ≤ n ∧ n < D.capOf f ∧ getB D s f n = 0

def NulAt (D : Desc) (s : St) (f : Fsm) : Prop := s.pos f < D.capOf f ∧ getB D s f (s.pos f) = 0

theorem NulAt.hasNul {D : Desc} {s : St} {f : Fsm} (h : NulAt D s f) : HasNul D s f 0 :=
  ⟨s.pos f, Nat.zero_le _, h.1, h.2⟩

theorem getB_congr (D : Desc) {s s' : St} (f : Fsm) (n : Nat) (h : SameBuf s s') : getB D s' f n = getB D s f n := by
  unfold getB; cases f <;> simp [h.1, h.2]

def SameReg (D : Desc) (f : Fsm) (s s' : St) : Prop := ∀ n, n < D.capOf f → getB D s' f n = getB D s f n

theorem SameReg.of_buf {D : Desc} {s s' : St} {f : Fsm} (h : SameBuf s s') : SameReg D f s s' := fun n _ => getB_congr D f n h

theorem sameReg_cmd_of_take {D : Desc} {s s' : St} (h : s'.buf.take D.cmdCap = s.buf.take D.cmdCap) : SameReg D .cmd s s' := by
  intro n (hn : n < D.cmdCap)
  have e : ∀ t : St, t.buf[n]? = (t.buf.take D.cmdCap)[n]? := fun t => by rw [List.getElem?_take, if_pos hn]
  simp only [getB, List.getD, e, h]

theorem sameReg_uns_of_drop {D : Desc} {s s' : St} (h1 : s'.ubuf = s.ubuf) (h2 : s'.buf.drop D.cmdCap = s.buf.drop D.cmdCap) :
    SameReg D .uns s s' := by
  intro n _
  cases hu : D.unsBuf.isSome
  · have e : ∀ t : St, t.buf[D.unsBase + n]? = (t.buf.drop D.cmdCap)[n]? := fun t => by
      rw [List.getElem?_drop, unsBase_eq_cmdCap D hu]
    simp only [getB, hu, Bool.false_eq_true, if_false, List.getD, e, h2]
  · simp [getB, hu, h1]

theorem HasNul.reg {D : Desc} {s s' : St} {f : Fsm} {p : Nat} (h : SameReg D f s s') (hn : HasNul D s f p) : HasNul D s' f p := by
  obtain ⟨n, a, b, c⟩ := hn
  exact ⟨n, a, b, by rw [h n b]; exact c⟩

theorem HasNul.congr {D : Desc} {s s' : St} {f : Fsm} {p : Nat} (h : SameBuf s s') (hn : HasNul D s f p) : HasNul D s' f p :=
  hn.reg (.of_buf h)

theorem HasNul.succ {D : Desc} {s : St} {f : Fsm} {p : Nat} (h : HasNul D s f p) (hne : getB D s f p ≠ 0) : HasNul D s f (p + 1) := by
  obtain ⟨n, a, b, c⟩ := h
  refine ⟨n, ?_, b, c⟩
  by_cases e : n = p
  · subst e; exact absurd c hne
  · omega

theorem HasNul.lt {D : Desc} {s : St} {f : Fsm} {p : Nat} (h : HasNul D s f p) : p < D.capOf f := by
  obtain ⟨n, a, b, _⟩ := h; omega

theorem chk_nulAt (D : Desc) (s : St) (f : Fsm) (c : Bool) : NulAt D (s.chk c) f ↔ NulAt D s f := by
  unfold NulAt
  rw [show (s.chk c).pos f = s.pos f by simp, getB_congr D f _ (show SameBuf s (s.chk c) by simp)]

theorem set_getD_zero (l : List Nat) (i : Nat) : (l.set i 0).getD i 0 = 0 := by
  simp only [List.getD, List.getElem?_set_self']
  cases l[i]? <;> rfl

theorem getB_setB_zero (D : Desc) (s : St) (f : Fsm) (i : Nat) (h : i < D.capOf f) :
    getB D (setB D s f i 0) f i = 0 := by
  simp only [setB, h, if_true]
  cases f
  · exact set_getD_zero _ _
  · simp only [getB]
    split <;> exact set_getD_zero _ _

theorem setB_oob_lt (D : Desc) (s : St) (f : Fsm) (i v : Nat) (h : i < D.capOf f) : (setB D s f i v).oob = s.oob :=
  ((setB_fault D s f i v).1 h).1

/-- whether or not the backing store is long enough: a read behind its end gives 0 -/
theorem getB_writeB_zero (D : Desc) (f : Fsm) (bs : List Byte) : ∀ (s : St) (i k : Nat), bs[k]? = some 0 → i + bs.length ≤ D.capOf f →
    getB D (writeB D s f i bs) f (i + k) = 0 := by
  induction bs with
  | nil => intro s i k h; simp at h
  | cons b r ih =>
    intro s i k h hc
    simp only [List.length_cons] at hc
    simp only [writeB]
    cases k with
    | zero =>
      obtain rfl : b = 0 := by simpa using h
      rw [getB_writeB_out D f r _ _ _ (Or.inl (by omega))]
      exact getB_setB_zero D s f i (by omega)
    | succ k =>
      rw [show i + (k + 1) = i + 1 + k by omega]
      exact ih (setB D s f i b) (i + 1) k (by simpa using h) (by omega)

theorem writeB_pos (D : Desc) (f : Fsm) (bs : List Byte) : ∀ (i : Nat) (t : St), (writeB D t f i bs).pos f = t.pos f :=
  fun _ _ => pos_of_samePos (by simp) f

def Printed (D : Desc) (f : Fsm) (s : St) (r : St × Bool) : Prop := r.1.oob = s.oob ∧ (r.2 = true → NulAt D r.1 f)

theorem Printed.fail {D : Desc} {f : Fsm} {s : St} : Printed D f s (s, false) := ⟨rfl, nofun⟩

theorem Printed.of_eq {D : Desc} {f : Fsm} {s t : St} {r : St × Bool} (h : t.oob = s.oob) (h2 : Printed D f t r) : Printed D f s r :=
  ⟨h2.1.trans h, h2.2⟩

theorem printN_oob (D : Desc) (s : St) (f : Fsm) (x : List Byte) (hp : s.pos f ≤ D.capOf f) : Printed D f s (printN D s f x) := by
  refine ⟨(printN_nofault D s f x hp).1.1, fun ok => ?_⟩
  simp only [printN, hp, decide_true, chkUb_true] at ok ⊢
  split
  · rename_i h; simp [h] at ok
  · have hlt : s.pos f + x.length < D.capOf f := by omega
    unfold NulAt
    rw [setB_pos, setPos_pos]
    exact ⟨hlt, getB_setB_zero D _ f _ hlt⟩

theorem printFmt_oob (D : Desc) (s : St) (f : Fsm) (x : List Byte) (hp : s.pos f ≤ D.capOf f) : Printed D f s (printFmt D s f x) := by
  refine ⟨(printFmt_nofault D s f x hp).1.1, fun ok => ?_⟩
  simp only [printFmt, hp, decide_true, chkUb_true] at ok ⊢
  split
  · rename_i h; simp [h] at ok
  · rename_i hl
    have hl' : D.capOf f - s.pos f ≠ 0 := by simpa using hl
    split
    · rename_i h; simp [hl, h] at ok
    · unfold NulAt
      rw [List.take_of_length_le (by omega), setPos_pos, getB_congr D f _ (setPos_frame _ f _).2.2.1]
      exact ⟨by omega, getB_writeB_zero D f (x ++ [0]) s (s.pos f) x.length (by simp) (by simp; omega)⟩

/-- a run of prints, stopped at the first failure: `printAll` over `printN`, `printHexBytes` over `printFmt` -/
theorem printed_run {α : Type} (D : Desc) (f : Fsm) (step : St → α → St × Bool) (run : St → List α → St × Bool)
    (hnil : ∀ s, run s [] = (s, true))
    (hcons : ∀ s x r, run s (x :: r) = if (step s x).2 = true then run (step s x).1 r else ((step s x).1, false))
    (hstep : ∀ s x, s.pos f ≤ D.capOf f → Printed D f s (step s x)) :
    ∀ (xs : List α) (s : St), s.pos f ≤ D.capOf f → (NulAt D s f ∨ xs ≠ []) → Printed D f s (run s xs) := by
  intro xs
  induction xs with
  | nil => intro s _ h; rw [hnil]; exact ⟨rfl, fun _ => h.resolve_right (by simp)⟩
  | cons x r ih =>
    intro s hp _
    have h1 := hstep s x hp
    rw [hcons]
    exact rel_ite (fun ok => (ih _ (Nat.le_of_lt (h1.2 ok).1) (.inl (h1.2 ok))).of_eq h1.1) fun _ => ⟨h1.1, nofun⟩

theorem printAll_oob (D : Desc) (f : Fsm) (xs : List (List Byte)) (s : St) (hp : s.pos f ≤ D.capOf f) (hx : xs ≠ []) :
    Printed D f s (printAll D s f xs) :=
  printed_run D f (printN D · f ·) (printAll D · f ·) (fun _ => rfl) (fun _ _ _ => rfl) (printN_oob D · f ·) xs s hp (.inr hx)

theorem printHexBytes_oob (D : Desc) (f : Fsm) (wo : Bool) (bs : List Byte) (s : St) (hp : s.pos f ≤ D.capOf f) (hx : bs ≠ []) :
    Printed D f s (printHexBytes D f wo s bs) :=
  printed_run D f (fun s b => printFmt D s f (hexFixed 2 (if wo then 0 else b))) (printHexBytes D f wo) (fun _ => rfl)
    (fun _ _ _ => rfl) (fun s _ => printFmt_oob D s f _) bs s hp (.inr hx)

/-- how a unit starts: cursor at 0, either at the opening line break of a framed unit or at the
text of a raw one (a command-list line) -/
structure Entry (s : St) (f : Fsm) : Prop where
  pos : s.pos f = 0
  src : (s.wst f = 0 ∧ ∃ off, off ≤ 1 ∧ s.wsrc f = .nl off) ∨ (s.wst f = 2 ∧ s.wsrc f = .main)

/-- output and handler-visible text of machine `f` end inside its region:
* while a unit is being flushed from the region the cursor has a NUL ahead of it, inside the region;
* while a line break is being flushed the cursor stays inside the literal "\r\n";
* before the payload is reached the region holds a NUL;
* while a read/test handler loop is active the region holds a NUL (the handler may report any size through `data_size`). -/
structure OobF (D : Desc) (s : St) (f : Fsm) : Prop where
  main : s.ph f = .flush → s.wsrc f = .main → HasNul D s f (s.pos f)
  nl : s.ph f = .flush → ∀ off, s.wsrc f = .nl off → off + s.pos f ≤ 2
  first : s.ph f = .flush → s.wst f = 0 → HasNul D s f 0
  loop : s.ph f = .loop → HasNul D s f 0
  wait : s.waiting f → Entry s f
  wsle : s.ph f = .flush → s.wst f ≤ 2

/-- the argument text of the command machine ends inside the command region -/
structure OobA (D : Desc) (s : St) : Prop where
  args : s.state = .parseCommandArgs → s.length < D.cmdCap ∧ getB D s .cmd s.length = 0
  wargs : s.state = .parseWriteArgs → HasNul D s .cmd s.position

theorem OobF.other {D : Desc} {s : St} {f : Fsm} (h : s.ph f = .other) : OobF D s f :=
  ⟨by simp [h], by simp [h], by simp [h], by simp [h], fun w => by simp [waiting_ph w] at h, by simp [h]⟩

theorem OobF.ofLoop {D : Desc} {s : St} {f : Fsm} (h : s.ph f = .loop) (hn : HasNul D s f 0) : OobF D s f :=
  ⟨by simp [h], by simp [h], by simp [h], fun _ => hn, fun w => by simp [waiting_ph w] at h, by simp [h]⟩

theorem OobF.ofEntry {D : Desc} {s : St} {f : Fsm} (e : Entry s f) (hn : HasNul D s f 0) (hph : s.ph f = .flush) : OobF D s f := by
  have hp := e.pos
  refine ⟨fun _ _ => by rw [hp]; exact hn, fun _ off h => ?_, fun _ _ => hn, fun h => by simp [hph] at h, fun _ => e, fun _ => ?_⟩
  · rcases e.src with ⟨_, o, ho, h'⟩ | ⟨_, h'⟩ <;> rw [h'] at h
    · cases h; omega
    · cases h
  · rcases e.src with ⟨h, _⟩ | ⟨h, _⟩ <;> omega

theorem OobF.reg {D : Desc} {s s' : St} {f : Fsm} (hph : s'.ph f = s.ph f) (hsrc : s'.wsrc f = s.wsrc f) (hwst : s'.wst f = s.wst f)
    (hpos : s'.pos f = s.pos f) (hb : SameReg D f s s') (hw : s'.waiting f → s.waiting f) (o : OobF D s f) : OobF D s' f := by
  refine ⟨?_, ?_, ?_, ?_, fun a => ⟨hpos.trans (o.wait (hw a)).pos, by rw [hsrc, hwst]; exact (o.wait (hw a)).src⟩, ?_⟩ <;>
    simp only [hph, hsrc, hwst, hpos]
  · exact fun a b => (o.main a b).reg hb
  · exact o.nl
  · exact fun a b => (o.first a b).reg hb
  · exact fun a => (o.loop a).reg hb
  · exact o.wsle

theorem OobF.of_keepsC {D : Desc} {s s' : St} (k : KeepsC s s') (r : KeepsCR D s s') (o : OobF D s .cmd) : OobF D s' .cmd := by
  refine o.reg ?_ ?_ ?_ ?_ (sameReg_cmd_of_take r.1) ?_ <;> simp [St.ph, St.wsrc, St.wst, St.pos, St.waiting, k]

theorem OobF.of_keepsU {D : Desc} {s s' : St} (k : KeepsU s s') (r : KeepsUR D s s') (o : OobF D s .uns) : OobF D s' .uns := by
  refine o.reg ?_ ?_ ?_ ?_ (sameReg_uns_of_drop r.1 r.2.1) ?_ <;> simp [St.ph, St.wsrc, St.wst, St.pos, St.waiting, k]

theorem OobA.of_keepsC {D : Desc} {s s' : St} (k : KeepsC s s') (r : KeepsCR D s s') (a : OobA D s) : OobA D s' := by
  obtain ⟨hl, hs, hp⟩ : s'.length = s.length ∧ s'.state = s.state ∧ s'.position = s.position := by simp [k]
  have reg := sameReg_cmd_of_take r.1
  refine ⟨fun h => ?_, fun h => ?_⟩
  · have := a.args (hs ▸ h)
    rw [hl, reg _ this.1]; exact this
  · rw [hp]; exact (a.wargs (hs ▸ h)).reg reg

/-- a hex-buffer variable of size 0 prints nothing (the response then lacks its terminator) -/
def VarOk (v : VarD) : Prop := v.type = .bufHex → 0 < v.dataSize

/-- what the descriptor must provide (DESIGN.md 2.3): the match-state lanes of all commands fit
the command region (the `assert` of `cat_init`, for the command half), the result code `ERROR`
and its terminator fit, and no hex-buffer variable is empty -/
structure DescOk (D : Desc) : Prop where
  lanes : D.commandsNum ≤ 4 * D.cmdCap
  ack : 6 ≤ D.cmdCap
  vars : ∀ id, ∀ v ∈ (D.cmdD id).vars.getD [], VarOk v

def MemOk (D : Desc) (s : St) : Prop := ∀ id, ∀ v ∈ (D.cmdD id).vars.getD [], v.dataSize ≤ (s.slotGet v.slot).length

theorem varAt_mem (c : CmdD) (i : Nat) (h : i < c.varNum) : c.varAt i ∈ c.vars.getD [] := by
  unfold CmdD.varAt CmdD.varNum at *
  rw [List.getElem?_eq_getElem h]
  exact List.getElem_mem h

def LenMem (s s' : St) : Prop := ∀ k, (s'.slotGet k).length = (s.slotGet k).length
theorem LenMem.of_lenE {s s' : St} (h : LenE s s') : LenMem s s' := fun k => by
  have e : ∀ t : St, (t.slotGet k).length = (t.mem.map List.length).getD k 0 := fun t => by
    simp only [St.slotGet, List.getD, List.getElem?_map]; cases t.mem[k]? <;> rfl
  rw [e, e, h]
theorem MemOk.len {D : Desc} {s s' : St} (h : MemOk D s) (hl : LenMem s s') : MemOk D s' :=
  fun id v hv => by rw [hl]; exact h id v hv

/-- the form of every step lemma here: the flag is as the step found it and the state after it satisfies the invariant;
nothing is assumed of the state before (each lemma takes the hypotheses it needs) -/
def OobStep (D : Desc) (f : Fsm) (s s' : St) : Prop := s'.oob = s.oob ∧ OobF D s' f

theorem OobStep.of_eq {D : Desc} {f : Fsm} {s t u : St} (h : t.oob = s.oob) (h2 : OobStep D f t u) : OobStep D f s u :=
  ⟨h2.1.trans h, h2.2⟩

theorem OobStep.plain {D : Desc} {f : Fsm} {s s' : St} (ho : s'.oob = s.oob) (h : s'.ph f = .other) : OobStep D f s s' := ⟨ho, .other h⟩

/-- on failure nothing is asked of the state: the caller ends the line -/
def OobTry (D : Desc) (f : Fsm) (s : St) (r : St × Bool) : Prop := r.1.oob = s.oob ∧ (r.2 = true → OobF D r.1 f)

theorem OobStep.try {D : Desc} {f : Fsm} {s t : St} (h : OobStep D f s t) : OobTry D f s (t, true) := ⟨h.1, fun _ => h.2⟩

/-- both machines' control fields and cursors and both buffers are unchanged (ring, hold flag, variable storage, log and
fault flags may differ): nothing `OobF`, `OobA` or `NulAt` reads has moved -/
structure Calm (s s' : St) : Prop where
  c : SameC' s s'
  u : SameU' s s'
  p : SamePos s s'
  b : SameBuf s s'

theorem unit_of_ctl {s s' : St} (c : SameC' s s') (u : SameU' s s') (f : Fsm) :
    s'.ph f = s.ph f ∧ s'.wsrc f = s.wsrc f ∧ s'.wst f = s.wst f ∧ (s'.waiting f → s.waiting f) := by
  cases f
  · simp [St.ph, St.wsrc, St.wst, St.waiting, c]
  · simp [St.ph, St.wsrc, St.wst, St.waiting, u]

theorem Calm.ph {s s' : St} (h : Calm s s') (f : Fsm) : s'.ph f = s.ph f := (unit_of_ctl h.c h.u f).1
theorem Calm.pos {s s' : St} (h : Calm s s') (f : Fsm) : s'.pos f = s.pos f := pos_of_samePos h.p f
theorem Calm.wsrc {s s' : St} (h : Calm s s') (f : Fsm) : s'.wsrc f = s.wsrc f ∧ s'.wst f = s.wst f :=
  have u := unit_of_ctl h.c h.u f
  ⟨u.2.1, u.2.2.1⟩
theorem NulAt.congr {D : Desc} {s s' : St} {f : Fsm} (hb : SameBuf s s') (hp : s'.pos f = s.pos f) (h : NulAt D s f) : NulAt D s' f := by
  unfold NulAt at *
  rw [hp, getB_congr D f _ hb]; exact h
theorem Calm.nulAt {D : Desc} {s s' : St} {f : Fsm} (h : Calm s s') (hn : NulAt D s f) : NulAt D s' f := hn.congr h.b (h.pos f)
theorem Calm.oobF {D : Desc} {s s' : St} {f : Fsm} (h : Calm s s') (o : OobF D s f) : OobF D s' f :=
  have u := unit_of_ctl h.c h.u f
  o.reg u.1 u.2.1 u.2.2.1 (h.pos f) (.of_buf h.b) u.2.2.2
theorem Calm.emit (s : St) (e : Ev) : Calm s (s.emit e) := ⟨by simp, by simp, by simp, by simp⟩
theorem Calm.chkUb (s : St) (c : Bool) : Calm s (s.chkUb c) := ⟨by simp, by simp, by simp, by simp⟩
theorem Calm.chk (s : St) (c : Bool) : Calm s (s.chk c) := ⟨by simp, by simp, by simp, by simp⟩

/-- a `Calm` step that also keeps the sizes of the storage blocks and the flag: what a variable callback does, and every move
of an API call outside the body of `cat_service` -/
def Still (s s' : St) : Prop := Calm s s' ∧ LenE s s' ∧ s'.oob = s.oob

theorem nlOff_le (s : St) : nlOff s ≤ 1 := by unfold nlOff; split <;> omega

theorem startFlush_oob (D : Desc) (s : St) (f : Fsm) (a : After) (h : HasNul D s f 0) : OobStep D f s (startFlush s f a) := by
  cases f <;> exact ⟨rfl, .ofEntry ⟨rfl, .inl ⟨rfl, _, nlOff_le s, rfl⟩⟩ (h.congr ⟨rfl, rfl⟩) rfl⟩

theorem strncpyC_nul (D : Desc) (s : St) (str : List Byte) (h : str.length < D.cmdCap) :
    getB D (strncpyC D s str) .cmd str.length = 0 := by
  have e : (str.take D.cmdCap ++ List.replicate (D.cmdCap - str.length) 0)[str.length]? = some 0 := by
    rw [List.take_of_length_le (by omega), List.getElem?_append_right (Nat.le_refl _), List.getElem?_replicate]
    simp; omega
  simpa [strncpyC] using getB_writeB_zero D .cmd _ s 0 str.length e (by simp [Desc.capOf]; omega)

theorem ackText_oob {D : Desc} (s : St) (str : List Byte) (e : Ev) (h : str.length < D.cmdCap) :
    OobStep D .cmd s (startFlush ((strncpyC D s str).emit e) .cmd .reset) :=
  (startFlush_oob D _ .cmd .reset
    ⟨str.length, Nat.zero_le _, h, by rw [getB_congr D .cmd _ (s := strncpyC D s str) (by simp)]; exact strncpyC_nul D s str h⟩).of_eq
    (by simp [(strncpyC_nofault D s str).1])

theorem ackError_oob {D : Desc} (hd : DescOk D) (s : St) : OobStep D .cmd s (ackError D s) :=
  ackText_oob s _ _ (Nat.lt_of_lt_of_le (by decide) hd.ack)

theorem ackOk_oob {D : Desc} (hd : DescOk D) (s : St) : OobStep D .cmd s (ackOk D s) :=
  ackText_oob s _ _ (Nat.lt_of_lt_of_le (by decide) hd.ack)

theorem endError_oob {D : Desc} (hd : DescOk D) (s : St) (f : Fsm) : OobStep D f s (endError D s f) := by
  cases f
  · exact ackError_oob hd s
  · exact .plain rfl rfl

theorem endOk_oob {D : Desc} (hd : DescOk D) (s : St) (f : Fsm) : OobStep D f s (endOk D s f) := by
  cases f
  · exact ackOk_oob hd s
  · exact .plain rfl rfl

theorem pushUnsolicited_oob (D : Desc) (s : St) (c : Nat) (t : CmdType) (hi : RingInv D s) : (pushUnsolicited D s c t).1.oob = s.oob := by
  by_cases h : s.rcount = D.cap
  · rw [push_full D s c t h]
  · exact (push_ok D s c t hi (by have := hi.count_le; omega)).2.2.2

/-- No fault: a trigger stores inside the ring, an edit stores its text and terminator inside the region.
The region of machine `f` keeps a NUL: only an edit changes it, and an edit ends in one. -/
theorem applyNested_oob (D : Desc) (f : Fsm) (e : Bool) (acts : List Nested) : ∀ s : St, RingInv D s →
    (applyNested D f e s acts).oob = s.oob ∧ (HasNul D s f 0 → HasNul D (applyNested D f e s acts) f 0) := by
  induction acts with
  | nil => intro s _; exact ⟨rfl, id⟩
  | cons a r ih =>
    intro s hi
    have next : ∀ t : St, RingInv D t → t.oob = s.oob → (HasNul D s f 0 → HasNul D t f 0) →
        (applyNested D f e t r).oob = s.oob ∧ (HasNul D s f 0 → HasNul D (applyNested D f e t r) f 0) :=
      fun t ht ho hn => ⟨(ih t ht).1.trans ho, fun h => (ih t ht).2 (hn h)⟩
    cases a with
    | trigger c t =>
      simp only [applyNested, withMutex]
      split
      · have h1 : RingInv D (s.emit (.lock 0)) := hi.congr (by simp)
        exact next _ ((pushUnsolicited_ring D _ c (cmdTypeOfInt t) h1).congr (by simp)) (by simp [pushUnsolicited_oob D _ c _ h1])
          fun h => h.congr (by simp)
      · exact next _ ((pushUnsolicited_ring D s c (cmdTypeOfInt t) hi).congr (by simp)) (by simp [pushUnsolicited_oob D s c _ hi])
          fun h => h.congr (by simp)
    | holdExit st =>
      simp only [applyNested, withMutex]
      split <;> exact next _ (hi.congr (by simp)) (by simp) fun h => h.congr (by simp)
    | poke slot off bs =>
      simp only [applyNested]
      split
      · exact next _ (hi.congr (by simp)) rfl fun h => h.congr (by simp)
      · exact ih s hi
    | edit bs =>
      simp only [applyNested]
      split
      · rename_i hc
        simp only [Bool.and_eq_true, decide_eq_true_eq] at hc
        refine next _ (hi.congr (by simp)) ?_ fun _ => ⟨bs.length, Nat.zero_le _, hc.2, ?_⟩
        · simp only [setPos_frame]; exact (writeB_nofault D f (bs ++ [0]) s 0 (by simp; omega)).1
        · rw [getB_congr D f _ (setPos_frame _ f _).2.2.1]
          simpa using getB_writeB_zero D f (bs ++ [0]) s 0 bs.length (by simp) (by simp; omega)
      · exact ih s hi
    | report n =>
      simp only [applyNested]
      split
      · exact next _ (hi.congr (by simp)) (by simp) fun h => h.congr (by simp)
      · exact ih s hi

theorem varReadCb_still (D : Desc) (s : St) (f : Fsm) (v : VarD) (i : SvcIn) (hi : RingInv D s) : Still s (varReadCb D s f v i).1 := by
  refine ⟨by cases f <;> exact ⟨by simp, by simp, by simp, by simp⟩, by cases f <;> simp, ?_⟩
  simp only [varReadCb]
  split
  · exact (applyNested_oob D f false _ _ (hi.congr (by simp))).1
  · rfl

theorem varWriteCb_still (D : Desc) (s : St) (v : VarD) (i : SvcIn) (hi : RingInv D s) : Still s (varWriteCb D s v i).1 := by
  refine ⟨⟨by simp, by simp, by simp, by simp⟩, by simp, ?_⟩
  unfold varWriteCb
  split
  · exact (applyNested_oob D .cmd false _ _ (hi.congr (by simp))).1
  · rfl

theorem chk_true (s : St) : s.chk true = s := rfl

theorem formatVar_oob (D : Desc) (s : St) (f : Fsm) (v : VarD) (hp : s.pos f ≤ D.capOf f)
    (hm : v.dataSize ≤ (s.slotGet v.slot).length) (hv : VarOk v) : Printed D f s (formatVar D s f v) := by
  have c1 := decide_eq_true hm
  unfold formatVar
  split
  case h_4 ht =>
    simp only [formatBufferHexadecimal, c1, chk_true]
    refine printHexBytes_oob D f _ _ s hp fun e => ?_
    have := congrArg List.length e
    have := hv ht
    simp only [List.length_append, List.length_take, List.length_replicate, List.length_nil] at *
    omega
  case h_5 =>
    -- the string is read up to `data_size` bytes, none for a write-only variable
    have c2 : (if v.access = .wo then 0 else v.dataSize) ≤ (s.slotGet v.slot).length := by split <;> omega
    simp only [formatBufferString, beq_iff_eq, c2, decide_true, Bool.or_true, chk_true]
    exact printAll_oob D f _ s hp (by simp)
  all_goals
    -- the three number types: load `data_size` bytes, print the digits
    simp only [formatIntDecimal, formatUIntDecimal, formatNumHexadecimal, loadUInt, c1, chk_true]
    exact rel_ite (fun _ => printFmt_oob D s f _ hp) (fun _ => .fail)

theorem formatInfoType_oob (D : Desc) (s : St) (f : Fsm) (v : VarD) (hp : s.pos f ≤ D.capOf f) :
    Printed D f s (formatInfoType D s f v) := by
  unfold formatInfoType
  split
  · exact .fail
  · exact printAll_oob D f _ s hp (by simp)

theorem setStateRL_oob {D : Desc} (s : St) (f : Fsm) (h : NulAt D s f) :
    OobStep D f s (setStateRL s f) ∧ OobStep D f s (setStateTL s f) := by
  cases f <;> exact ⟨⟨rfl, .ofLoop rfl (h.hasNul.congr (by simp))⟩, ⟨rfl, .ofLoop rfl (h.hasNul.congr (by simp))⟩⟩

/-- where both `start_processing_format_*_args` begin: the head `NAME=`, printed from the start of the region -/
theorem printHead_oob (D : Desc) (s : St) (f : Fsm) (c : Bool) (x : List (List Byte)) (hx : x ≠ []) :
    Printed D f s (printAll D ((s.setPos f 0).chkUb c) f x) :=
  (printAll_oob D f x _ (by rw [(Calm.chkUb _ c).pos, setPos_pos]; omega) hx).of_eq (by simp)

theorem startFormatRead_oob {D : Desc} (hd : DescOk D) (s : St) (f : Fsm) : OobStep D f s (startFormatRead D s f) := by
  simp only [startFormatRead]
  generalize D.cmdD _ = c
  have pa := printHead_oob D s f ((s.setPos f 0).cmdOf f).isSome [c.name, [61]] (by simp)
  generalize printAll D _ f _ = r at pa ⊢
  refine rel_ite (fun _ => (endError_oob hd _ f).of_eq pa.1) fun ok => rel_ite (fun _ => ?_) fun _ =>
    rel_ite (fun _ => (endError_oob hd _ f).of_eq pa.1) fun _ => (setStateRL_oob _ f (pa.2 (by simpa using ok))).1.of_eq pa.1
  cases f <;> exact .plain pa.1 rfl

theorem printResponseTest_oob {D : Desc} (s : St) (f : Fsm) (hn : NulAt D s f) : OobTry D f s (printResponseTest D s f) := by
  simp only [printResponseTest]
  have k : (s.chkUb (s.cmdOf f).isSome).oob = s.oob ∧ NulAt D (s.chkUb (s.cmdOf f).isSome) f := ⟨by simp, (Calm.chkUb s _).nulAt hn⟩
  generalize s.chkUb _ = s0 at k ⊢
  have fin : ∀ t : St, t.oob = s.oob → NulAt D t f → ∀ c : Bool,
      OobTry D f s (if c = true then (setStateTL t f, true) else (startFlush t f .ok, true)) :=
    fun t ho hn c => rel_ite (fun _ => ((setStateRL_oob t f hn).2.of_eq ho).try) fun _ => ((startFlush_oob D t f .ok hn.hasNul).of_eq ho).try
  generalize D.cmdD (s0.cmdOf f) = c
  cases c.desc with
  | none => exact fin s0 k.1 k.2 _
  | some d =>
    have pa := printAll_oob D f [nlStr s0, d] s0 (Nat.le_of_lt k.2.1) (by simp)
    exact rel_ite (fun _ => ⟨pa.1.trans k.1, nofun⟩) fun ok => fin _ (pa.1.trans k.1) (pa.2 (by simpa using ok)) _

theorem startFormatTest_oob {D : Desc} (hd : DescOk D) (s : St) (f : Fsm) : OobStep D f s (startFormatTest D s f) := by
  simp only [startFormatTest]
  generalize D.cmdD _ = c
  have pa := printHead_oob D s f ((s.setPos f 0).cmdOf f).isSome [c.name, [61]] (by simp)
  generalize printAll D _ f _ = r at pa ⊢
  refine rel_ite (fun _ => (endError_oob hd _ f).of_eq pa.1) fun ok => rel_ite (fun _ => ?_) fun _ => ?_
  · cases f <;> exact .plain pa.1 rfl
  · have pr := printResponseTest_oob r.1 f (pa.2 (by simpa using ok))
    exact rel_ite (fun ok2 => ⟨pr.1.trans pa.1, pr.2 ok2⟩) fun _ => (endError_oob hd _ f).of_eq (pr.1.trans pa.1)

theorem nextFormatVar_oob {D : Desc} (hd : DescOk D) (s : St) (f : Fsm) (hph : s.ph f = .other) :
    OobTry D f s (nextFormatVar D s f) := by
  simp only [nextFormatVar]
  have si : (s.setIdx f (s.idx f + 1)).ph f = .other ∧ (s.setIdx f (s.idx f + 1)).oob = s.oob := by cases f <;> exact ⟨hph, rfl⟩
  generalize s.setIdx f (s.idx f + 1) = t at si
  refine rel_ite (fun _ => rel_ite (fun _ => ((endError_oob hd t f).of_eq si.2).try) fun hlt => ?_) fun _ => ⟨si.2, nofun⟩
  exact ⟨by simp only [setPos_frame]; exact (setB_oob_lt D t f _ 44 (by omega)).trans si.2,
    fun _ => .other ((unit_of_ctl (s := t) (by simp) (by simp) f).1.trans si.1)⟩

theorem setIdx_nulAt {D : Desc} {s : St} {f : Fsm} (n : Nat) (h : NulAt D s f) : NulAt D (s.setIdx f n) f :=
  h.congr (by simp) (pos_of_samePos (by simp) f)

theorem formatReadArgs_oob {D : Desc} (hd : DescOk D) (s : St) (f : Fsm) (i : SvcIn) (hph : s.ph f = .other) (h : Fmt D f s)
    (hr : RingInv D s) (hm : MemOk D s) : OobStep D f s (formatReadArgs D s f i).1 := by
  simp only [formatReadArgs, h.cmd, chkUb_true, h.var, decide_true, apply_ite Prod.fst]
  have hmem := varAt_mem _ _ h.var
  generalize (D.cmdD (s.cmdOf f)).varAt (s.idx f) = v at hmem
  obtain ⟨cb, l1, o1⟩ := varReadCb_still D s f v i hr
  generalize (varReadCb D s f v i).1 = s1 at cb l1 o1 ⊢
  refine rel_ite (fun _ => (endError_oob hd s1 f).of_eq o1) fun _ => ?_
  -- the variable's text: read from storage that is long enough (`MemOk`), and the cursor is left at the NUL behind it
  have fo := formatVar_oob D s1 f v (by rw [cb.pos f]; exact h.pos) ((hm.len (.of_lenE l1)) _ v hmem) (hd.vars _ v hmem)
  have fc := unit_of_ctl (s := s1) (s' := (formatVar D s1 f v).1) (by simp) (by simp) f
  generalize formatVar D s1 f v = r2 at fo fc ⊢
  have o2 : r2.1.oob = s.oob := fo.1.trans o1
  refine rel_ite (fun _ => (endError_oob hd _ f).of_eq o2) fun ok => ?_
  have nx := nextFormatVar_oob hd r2.1 f (by rw [fc.1, cb.ph f]; exact hph)
  refine rel_ite (fun hm => ⟨nx.1.trans o2, nx.2 hm⟩) fun hm => ?_
  -- no more variables: the handler, or the text is flushed
  rw [nextFormatVar_done D r2.1 f (by simpa using hm)]
  have n3 := setIdx_nulAt (r2.1.idx f + 1) (fo.2 (by simpa using ok))
  have o3 : (r2.1.setIdx f (r2.1.idx f + 1)).oob = s.oob := by simpa using o2
  exact rel_ite (fun _ => (setStateRL_oob _ f n3).1.of_eq o3) fun _ => (startFlush_oob D _ f .ok n3.hasNul).of_eq o3

theorem formatTestArgs_oob {D : Desc} (hd : DescOk D) (s : St) (f : Fsm) (hph : s.ph f = .other) (h : Fmt D f s) :
    OobStep D f s (formatTestArgs D s f).1 := by
  simp only [formatTestArgs, h.cmd, chkUb_true, h.var, decide_true, apply_ite Prod.fst]
  generalize (D.cmdD (s.cmdOf f)).varAt (s.idx f) = v
  have fi := formatInfoType_oob D s f v h.pos
  have fc := unit_of_ctl (s := s) (s' := (formatInfoType D s f v).1) (by simp) (by simp) f
  generalize formatInfoType D s f v = r1 at fi fc ⊢
  refine rel_ite (fun _ => (endError_oob hd _ f).of_eq fi.1) fun ok => ?_
  have nx := nextFormatVar_oob hd r1.1 f (fc.1.trans hph)
  refine rel_ite (fun hm => ⟨nx.1.trans fi.1, nx.2 hm⟩) fun hm => ?_
  -- no more variables: the description (if any) is appended behind the NUL
  rw [nextFormatVar_done D r1.1 f (by simpa using hm)]
  have pr := printResponseTest_oob _ f (setIdx_nulAt (r1.1.idx f + 1) (fi.2 (by simpa using ok)))
  have o2 : (r1.1.setIdx f (r1.1.idx f + 1)).oob = s.oob := by simpa using fi.1
  exact rel_ite (fun ok3 => ⟨pr.1.trans o2, pr.2 ok3⟩) fun _ => (endError_oob hd _ f).of_eq (pr.1.trans o2)

theorem startPrintCmdList_oob {D : Desc} (hd : DescOk D) (t : St) : OobStep D .cmd t (startPrintCmdList D t) := by
  unfold startPrintCmdList
  exact rel_ite (fun _ => ackOk_oob hd t) fun _ => .plain rfl rfl

/-- every outcome of a read or test handler's call, from a loop state with terminated text: the text is flushed,
replaced by a fresh one, or dropped -/
theorem arm_oob {D : Desc} (hd : DescOk D) (t : St) (f : Fsm) (k : HKind) (hk : k = .read ∨ k = .test) (n : Spec.Next)
    (hc : n = .cmdListThenOk → k = .test ∧ f = .cmd) (hn : HasNul D t f 0) (hph : t.ph f = .loop) :
    OobStep D f t (doCalls D f t (Spec.callsOf k n)) := by
  cases n with
  | finishOk => rcases hk with rfl | rfl <;> exact endOk_oob hd t f
  | finishError => rcases hk with rfl | rfl <;> exact endError_oob hd t f
  | dataThenOk => exact startFlush_oob D t f .ok hn
  | dataThenAgain => rcases hk with rfl | rfl <;> exact startFlush_oob D t f _ hn
  | again =>
    rcases hk with rfl | rfl
    · exact startFormatRead_oob hd t f
    · exact startFormatTest_oob hd t f
  | hold =>
    cases f
    · exact .plain rfl rfl
    · exact ⟨rfl, .ofLoop hph (hn.congr ⟨rfl, rfl⟩)⟩
  | cmdListThenOk =>
    obtain ⟨rfl, rfl⟩ := hc rfl
    exact startPrintCmdList_oob hd t
  | releaseThen ok =>
    cases ok
    · exact (endError_oob hd _ f).of_eq (holdExit_faults t _).1
    · exact (endOk_oob hd _ f).of_eq (holdExit_faults t _).1

/-- the outcomes of a write or run handler: it has no response text to emit and no held command to release -/
theorem respSpec_noText (k : HKind) (hk : k = .write ∨ k = .run) (f : Fsm) (ret : Int) :
    Spec.respSpec k f ret ∈ [.finishOk, .finishError, .again, .hold, .cmdListThenOk] := by
  rcases hk with rfl | rfl <;> simp only [Spec.respSpec] <;> (repeat' split) <;> simp

theorem wr_arm_oob {D : Desc} (hd : DescOk D) (t : St) (k : HKind) (hk : k = .write ∨ k = .run) (n : Spec.Next)
    (hn : n ∈ [.finishOk, .finishError, .again, .hold, .cmdListThenOk]) (hph : t.ph .cmd = .other) :
    OobStep D .cmd t (doCalls D .cmd t (Spec.callsOf k n)) := by
  simp only [List.mem_cons, List.not_mem_nil, or_false] at hn
  rcases hn with rfl | rfl | rfl | rfl | rfl
  · rcases hk with rfl | rfl <;> exact ackOk_oob hd t
  · rcases hk with rfl | rfl <;> exact ackError_oob hd t
  · rcases hk with rfl | rfl <;> exact .plain rfl hph
  · exact .plain rfl rfl
  · exact startPrintCmdList_oob hd t

theorem loopStep_oob {D : Desc} (hd : DescOk D) (s : St) (f : Fsm) (k : HKind) (a : HAnswer) (hr : RingInv D s)
    (h : if k.edits then HasNul D s f 0 ∧ s.ph f = .loop else f = .cmd ∧ s.ph .cmd = .other) :
    OobStep D f s (loopStep D f k s a) := by
  simp only [loopStep]
  generalize hs0 : s.chkUb (s.cmdOf f).isSome = s0
  generalize handlerEv D f k s0 a.ret = ev
  have c0 : Calm s (s0.emit ev) := hs0 ▸ ⟨by simp, by simp, by simp, by simp⟩
  have an := applyNested_oob D f k.edits a.acts _ (hr.congr (s' := s0.emit ev) (by rw [← hs0]; simp))
  have p1 : (applyNested D f k.edits (s0.emit ev) a.acts).ph f = s.ph f :=
    (unit_of_ctl (by simp) (by simp) f).1.trans (c0.ph f)
  generalize applyNested D f k.edits (s0.emit ev) a.acts = t at an p1
  refine OobStep.of_eq (an.1.trans (by rw [← hs0]; simp)) ?_
  rw [loopTable_eq]
  cases k <;> simp only [HKind.edits, if_true, Bool.false_eq_true, if_false] at h
  case write | run =>
    obtain ⟨rfl, h⟩ := h
    exact wr_arm_oob hd t _ (by simp) _ (respSpec_noText _ (by simp) _ _) (p1.trans h)
  case read | test =>
    exact arm_oob hd t f _ (by simp) _ (fun e => (respSpec_cmdList e).resolve_left nofun) (an.2 (h.1.congr c0.b)) (p1.trans h.2)

theorem nl_get_ne (n : Nat) (h : ([13, 10, 0] : List Byte).getD n 0 ≠ 0) : n ≤ 1 :=
  match n, h with
  | 0, _ | 1, _ => by omega
  | 2, h | _ + 3, h => absurd rfl h

theorem OobF.ofWriting {D : Desc} {s x : St} {f : Fsm} (hw : x.writing f) (hb : SameBuf s x) {ws p : Nat} {src : WSrc}
    (h1 : x.wst f = ws) (h2 : x.wsrc f = src) (h3 : x.pos f = p) (main : src = .main → HasNul D s f p)
    (nl : ∀ off, src = .nl off → off + p ≤ 2) (first : ws = 0 → HasNul D s f 0) (wsle : ws ≤ 2) : OobF D x f := by
  have hph := (ph_flush_iff x f).2 (.inr hw)
  subst h1 h2 h3
  exact ⟨fun _ h => (main h).congr hb, fun _ => nl, fun _ h => (first h).congr hb, fun h => by simp [hph] at h,
    fun h => absurd h (not_waiting_of_writing hw), fun _ => wsle⟩

/-- the byte under the output cursor is read inside its object, and behind a byte that is not NUL the object goes on -/
theorem OobF.writeByte {D : Desc} {s : St} {f : Fsm} (o : OobF D s f) (hph : s.ph f = .flush) :
    (writeByte D s f).2 = true ∧ ((writeByte D s f).1 ≠ 0 →
      (s.wsrc f = .main → HasNul D s f (s.pos f + 1)) ∧ (∀ off, s.wsrc f = .nl off → off + (s.pos f + 1) ≤ 2)) := by
  rw [writeByte_eq]
  cases hsrc : s.wsrc f with
  | nl off =>
    refine ⟨by simpa using o.nl hph off hsrc, fun hne => ⟨nofun, fun off' h => ?_⟩⟩
    cases h
    have := nl_get_ne _ hne; omega
  | main =>
    have hn := o.main hph hsrc
    exact ⟨by simpa using hn.lt, fun hne => ⟨fun _ => hn.succ hne, nofun⟩⟩

theorem ioWrite_oob {D : Desc} (s : St) (f : Fsm) (i : SvcIn) (hw : s.writing f) (o : OobF D s f) :
    OobStep D f s (ioWrite D s f i).1 := by
  have hph := (ph_flush_iff s f).2 (.inr hw)
  have inb := o.writeByte hph
  rw [ioWrite_fst]
  generalize writeByte D s f = r at inb
  obtain ⟨ch, ok⟩ := r
  obtain ⟨rfl, room⟩ := inb
  simp only [chk_true]
  refine rel_ite (fun _ => ?_) (fun hne => ?_)
  · -- a NUL: the part is out; on to the text, to the closing line break, to the state the unit was started for
    refine rel_ite (fun h0 => ?_) fun _ => rel_ite (fun _ => ?_) fun _ => rel_ite (fun _ => ?_) fun _ => ⟨rfl, o⟩
    · exact ⟨by simp, .ofWriting (ws := 1) (src := .main) (p := 0) (by simpa using hw) (by simp) (by simp) (by simp) (by simp)
        (fun _ => o.first hph (by simpa using h0)) nofun (by simp) (by omega)⟩
    · exact ⟨by simp, .ofWriting (s := s) (ws := 2) (src := .nl (nlOff s)) (p := 0) (by simpa using hw) (by simp) (by simp)
        (by simp) (by simp) nofun (fun off h => by cases h; have := nlOff_le s; omega) (by simp) (by omega)⟩
    · exact .plain (by simp) (by simp)
  · -- a byte of the text: offered, and if taken the cursor moves on
    have room := room (by simpa using hne)
    generalize Ev.wr f ch i.wr _ = ev
    refine rel_ite (fun _ => ⟨rfl, (Calm.emit s ev).oobF o⟩) (fun _ => ?_)
    simp only [emit_unit]
    exact ⟨by simp, .ofWriting (by simpa using hw) (by simp) (by simp) (by simp) (setPos_pos _ f _) room.1 room.2 (o.first hph)
      (o.wsle hph)⟩

theorem ioWait_oob {D : Desc} (s : St) (f : Fsm) (hw : s.waiting f) (o : OobF D s f) : OobStep D f s (ioWait s f).1 := by
  cases f <;> simp only [ioWait, processIoWriteWait, unsolicitedProcessIoWriteWait] <;>
    exact rel_ite (fun _ => ⟨rfl, o.reg (waiting_ph hw).symm rfl rfl rfl (.of_buf ⟨rfl, rfl⟩) nofun⟩) (fun _ => ⟨rfl, o⟩)

theorem prepareParseCommand_oob (D : Desc) (s : St) : (prepareParseCommand D s).oob = s.oob := by
  unfold prepareParseCommand
  exact (writeB_nofault D .cmd _ s 0 (by simp [Desc.capOf])).1

/-- Outside the argument text a byte read moves the command machine between states that own no text, or ends the
line: with a result code, or (`AT+CMD=?`) with the start of a test response. -/
theorem readerBody_oob {D : Desc} (hd : DescOk D) (st : CState) (t : St) (hr : Reading st) (ha : st ≠ .parseCommandArgs)
    (hph : t.ph .cmd = .other) : OobStep D .cmd t (readerBody D st t) := by
  unfold Reading at hr
  rcases hr with rfl | rfl | rfl | rfl | rfl | rfl | rfl <;> try exact absurd rfl ha
  all_goals
    simp only [readerBody]
    repeat' (with_reducible refine rel_ite (fun _ => ?_) (fun _ => ?_))
    all_goals first
      | with_reducible exact ackError_oob hd t
      | with_reducible exact ackOk_oob hd t
      | with_reducible exact startFormatTest_oob hd t .cmd
      | exact .plain rfl rfl
      | exact .plain rfl hph
      | exact .plain (prepareParseCommand_oob D t) rfl

theorem lane_lt {D : Desc} (hd : DescOk D) {i : Nat} (h : i < D.commandsNum) : i / 4 < D.cmdCap := by
  have := hd.lanes; omega

theorem getCmdState_oob {D : Desc} (hd : DescOk D) (s : St) (i : Nat) (h : i < D.commandsNum) : (getCmdState D s i).1 = s := by
  unfold getCmdState
  split
  · rfl
  · simp [lane_lt hd h, St.chk]

theorem setCmdState_oob {D : Desc} (hd : DescOk D) (s : St) (i v : Nat) (h : i < D.commandsNum) : (setCmdState D s i v).oob = s.oob :=
  setB_oob_lt D s .cmd _ _ (lane_lt hd h)

theorem updateCommand_oob {D : Desc} (hd : DescOk D) (s : St) (hi : s.index < D.commandsNum) : (updateCommand D s).1.oob = s.oob := by
  have hl : (updateLane D s).oob = s.oob := by
    simp only [updateLane, getCmdState_oob hd s s.index hi, apply_ite St.oob, setCmdState_oob hd s _ _ hi, ite_self]
  simp only [updateCommand, hi, decide_true, chkUb_true]
  exact (show (updateAdvance D (updateLane D s)).oob = (updateLane D s).oob by simp).trans hl

theorem searchCommand_oob {D : Desc} (hd : DescOk D) (s : St) (hi : s.index < D.commandsNum) : (searchCommand D s).1.oob = s.oob := by
  simp only [searchCommand, hi, decide_true, chkUb_true, getCmdState_oob hd s s.index hi, notFoundOrError,
    apply_ite Prod.fst, apply_ite St.oob, ite_self]

theorem processHoldState_oob {D : Desc} (hd : DescOk D) (s : St) (hph : s.ph .cmd = .other) : OobStep D .cmd s (processHoldState D s).1 := by
  simp only [processHoldState, apply_ite Prod.fst]
  exact rel_ite (fun _ => .plain rfl hph) fun _ =>
    rel_ite (fun _ => (ackError_oob hd _).of_eq rfl) fun _ => (ackOk_oob hd _).of_eq rfl

theorem isDecChar_zero : isDecChar 0 = false := by decide

/-- what the argument parsers guarantee when the text holds a NUL: they never run off the text,
and when they stop at a comma the NUL is still ahead -/
structure StopsIn (txt : List Byte) (n used : Nat) (ret : Int) (off : Bool) : Prop where
  off : off = false
  ge : n < used
  more : 0 < ret → 0 ∈ txt.drop (used - n)

theorem StopsIn.here {ch : Byte} {r : List Byte} {n : Nat} {ret : Int} (h : 0 < ret → 0 ∈ r) : StopsIn (ch :: r) n (n + 1) ret false :=
  ⟨rfl, by omega, fun e => by rw [show n + 1 - n = 1 by omega]; exact h e⟩

theorem StopsIn.bad {ch : Byte} {r : List Byte} {n : Nat} : StopsIn (ch :: r) n (n + 1) (-1) false :=
  .here (absurd · (by decide))

theorem StopsIn.step {ch : Byte} {r : List Byte} {n used : Nat} {ret : Int} {off : Bool} (h : StopsIn r (n + 1) used ret off) :
    StopsIn (ch :: r) n used ret off := by
  have := h.ge
  exact ⟨h.off, by omega, fun e => by rw [show used - n = (used - (n + 1)) + 1 by omega]; exact h.more e⟩

theorem mem_tail_of_ne {ch : Byte} {r : List Byte} (h : 0 ∈ ch :: r) (hc : ch ≠ 0) : 0 ∈ r :=
  (List.mem_cons.1 h).resolve_left (Ne.symm hc)

/- Each parser is walked once over the branches of its step.  It goes on to the rest of the text, or reports
that more follows, only at a byte that has passed one of its tests, and NUL passes none of them: so the NUL
of the text is still ahead.  `simp_all` refutes `ch = 0` from the tests on the path; `ih` and `walk` are cleared
first, or it would spend most of its time simplifying them. -/

theorem parseUIntDec_stops : ∀ (txt : List Byte) (val : Nat) (ok : Bool) (n : Nat), 0 ∈ txt →
    StopsIn txt n (parseUIntDec txt val ok n).used (parseUIntDec txt val ok n).ret (parseUIntDec txt val ok n).off := by
  intro txt
  induction txt with
  | nil => intro _ _ _ h; simp at h
  | cons ch r ih =>
    intro val ok n h
    have walk := @rel_ite PNum (fun p => StopsIn (ch :: r) n p.used p.ret p.off)
    simp only [parseUIntDec]
    repeat' (refine walk (fun _ => ?_) (fun _ => ?_))
    all_goals first
      | exact .bad
      | exact .here fun _ => mem_tail_of_ne h (by rintro rfl; clear ih walk; simp_all)
      | exact (ih _ _ _ (mem_tail_of_ne h (by rintro rfl; clear ih walk; simp_all [isDecChar_zero]))).step

theorem parseIntDec_stops : ∀ (txt : List Byte) (val sign : Nat) (ok : Bool) (n : Nat), 0 ∈ txt →
    StopsIn txt n (parseIntDec txt val sign ok n).used (parseIntDec txt val sign ok n).ret (parseIntDec txt val sign ok n).off := by
  intro txt
  induction txt with
  | nil => intro _ _ _ _ h; simp at h
  | cons ch r ih =>
    intro val sign ok n h
    have walk := @rel_ite PNum (fun p => StopsIn (ch :: r) n p.used p.ret p.off)
    simp only [parseIntDec]
    repeat' (refine walk (fun _ => ?_) (fun _ => ?_))
    all_goals first
      | exact .bad
      | exact .here fun _ => mem_tail_of_ne h (by rintro rfl; clear ih walk; simp_all)
      | exact (ih _ _ _ _ (mem_tail_of_ne h (by rintro rfl; clear ih walk; simp_all [isDecChar_zero]))).step

theorem parseNumHex_stops : ∀ (txt : List Byte) (val st n : Nat), 0 ∈ txt →
    StopsIn txt n (parseNumHex txt val st n).used (parseNumHex txt val st n).ret (parseNumHex txt val st n).off := by
  intro txt
  induction txt with
  | nil => intro _ _ _ h; simp at h
  | cons ch r ih =>
    intro val st n h
    have walk := @rel_ite PNum (fun p => StopsIn (ch :: r) n p.used p.ret p.off)
    simp only [parseNumHex]
    repeat' (refine walk (fun _ => ?_) (fun _ => ?_))
    all_goals first
      | exact .bad
      | exact .here fun _ => mem_tail_of_ne h (by rintro rfl; clear ih walk; simp_all [toUpper_zero])
      | exact (ih _ _ _ (mem_tail_of_ne h (by rintro rfl; clear ih walk; simp_all [toUpper_zero, isHexChar_zero]))).step

theorem parseBufHex_stops (ds : Nat) : ∀ (txt : List Byte) (byte : Nat) (st : Bool) (acc : List Byte) (n : Nat), 0 ∈ txt →
    StopsIn txt n (parseBufHex ds txt byte st acc n).used (parseBufHex ds txt byte st acc n).ret (parseBufHex ds txt byte st acc n).off := by
  intro txt
  induction txt with
  | nil => intro _ _ _ _ h; simp at h
  | cons ch r ih =>
    intro byte st acc n h
    have walk := @rel_ite PBuf (fun p => StopsIn (ch :: r) n p.used p.ret p.off)
    simp only [parseBufHex]
    repeat' (refine walk (fun _ => ?_) (fun _ => ?_))
    all_goals first
      | exact .bad
      | exact .here fun _ => mem_tail_of_ne h (by rintro rfl; clear ih walk; simp_all [toUpper_zero])
      | exact (ih _ _ _ _ (mem_tail_of_ne h (by rintro rfl; clear ih walk; simp_all [toUpper_zero, isHexChar_zero]))).step

theorem parseBufString_stops (ds : Nat) : ∀ (txt : List Byte) (st : Nat) (acc : List Byte) (n : Nat), 0 ∈ txt →
    StopsIn txt n (parseBufString ds txt st acc n).used (parseBufString ds txt st acc n).ret (parseBufString ds txt st acc n).off := by
  intro txt
  induction txt with
  | nil => intro _ _ _ h; simp at h
  | cons ch r ih =>
    intro st acc n h
    have walk := @rel_ite PBuf (fun p => StopsIn (ch :: r) n p.used p.ret p.off)
    simp only [parseBufString]
    repeat' (refine walk (fun _ => ?_) (fun _ => ?_))
    all_goals first
      | exact .bad
      | exact .here fun _ => mem_tail_of_ne h (by rintro rfl; clear ih walk; simp_all)
      | exact (ih _ _ _ (mem_tail_of_ne h (by rintro rfl; clear ih walk; simp_all))).step

def SameArgs (s t : St) : Prop := t.oob = s.oob ∧ t.buf = s.buf ∧ t.position = s.position

theorem validate_oob (s : St) (v : VarD) (hsz : v.dataSize ≤ (s.slotGet v.slot).length) :
    (∀ neg mag, SameArgs s (validateIntRange s v neg mag).1) ∧ (∀ val, SameArgs s (validateUIntRange s v val).1) := by
  have st : ∀ val, (storeInt s v val).oob = s.oob := fun val => by
    simp only [storeInt, decide_eq_true hsz, chk_true]
    exact (slotWrite_spec v.slot (leBytes v.dataSize val) s 0 (by rw [leBytes_length]; omega)).2.1
  refine ⟨fun neg mag => ⟨?_, by simp, by simp⟩, fun val => ⟨?_, by simp, by simp⟩⟩ <;>
    simp only [validateIntRange, validateUIntRange, apply_ite Prod.fst, apply_ite St.oob, st, ite_self]

theorem region_cmd_congr (D : Desc) {s s' : St} (h : s'.buf = s.buf) (p : Nat) : region D s' .cmd p = region D s .cmd p := by
  simp [region, h]

/-- `0 < r.2.1`: more arguments follow -/
def Parsed (D : Desc) (s : St) (r : St × Int × Bool) : Prop :=
  r.1.oob = s.oob ∧ (0 < r.2.1 → 0 ∈ region D r.1 .cmd r.1.position)

theorem StopsIn.ahead {D : Desc} {s t : St} {used : Nat} {ret : Int} {off : Bool}
    (st : StopsIn (region D s .cmd s.position) 0 used ret off) (hb : t.buf = s.buf) (hp : t.position = s.position + used)
    (h : 0 < ret) : 0 ∈ region D t .cmd t.position := by
  rw [region_cmd_congr D hb, hp, show region D s .cmd (s.position + used) = (region D s .cmd s.position).drop used by
    simp [region, Nat.add_comm]]
  exact st.more h

theorem numStore_oob (D : Desc) (s : St) (r : PNum) (val : PNum → St → St × Bool)
    (st : StopsIn (region D s .cmd s.position) 0 r.used r.ret r.off)
    (hval : ∀ t : St, t.mem = s.mem → SameArgs t (val r t).1) :
    Parsed D s (numStore s r val) := by
  unfold numStore
  simp only [st.off, Bool.not_false, chk_true]
  split
  · exact ⟨rfl, st.ahead rfl rfl⟩
  · have h := hval { s with position := s.position + r.used } rfl
    exact ⟨h.1, st.ahead h.2.1 h.2.2⟩

theorem bufStore_oob (D : Desc) (s : St) (v : VarD) (r : PBuf) (st : StopsIn (region D s .cmd s.position) 0 r.used r.ret r.off)
    (hb : r.stored.length ≤ (s.slotGet v.slot).length) : Parsed D s (bufStore s v r) := by
  unfold bufStore
  simp only [st.off, Bool.not_false, chk_true]
  have k := rel_ite (R := SameArgs { s with position := s.position + r.used }) (c := (v.access == .ro) = true)
    (a := { s with position := s.position + r.used })
    (b := slotWrite { s with position := s.position + r.used } v.slot 0 r.stored) (fun _ => ⟨rfl, rfl, rfl⟩)
    (fun _ => ⟨(slotWrite_spec v.slot r.stored _ 0 (by rw [Nat.zero_add]; exact hb)).2.1, by simp, by simp⟩)
  generalize (if (v.access == Access.ro) = true then _ else _ : St) = s2 at k
  split <;> exact ⟨k.1, st.ahead k.2.1 k.2.2⟩

theorem parseVarValue_oob (D : Desc) (s : St) (v : VarD) (hn : 0 ∈ region D s .cmd s.position)
    (hsz : v.dataSize ≤ (s.slotGet v.slot).length) : Parsed D s (parseVarValue D s v) := by
  have vk := fun (t : St) (ht : t.mem = s.mem) => validate_oob t v (by simpa [St.slotGet, ht] using hsz)
  rw [parseVarValue_eq]
  cases v.type <;> simp only
  · exact numStore_oob D s _ _ (parseIntDec_stops _ 0 0 false 0 hn) fun t ht => (vk t ht).1 _ _
  · exact numStore_oob D s _ _ (parseUIntDec_stops _ 0 false 0 hn) fun t ht => (vk t ht).2 _
  · exact numStore_oob D s _ _ (parseNumHex_stops _ 0 0 0 hn) fun t ht => (vk t ht).2 _
  · exact bufStore_oob D s v _ (parseBufHex_stops v.dataSize _ 0 false [] 0 hn)
      (Nat.le_trans (parseBufHex_bound v.dataSize _ 0 false [] 0 (by simp)).1 hsz)
  · exact bufStore_oob D s v _ (parseBufString_stops v.dataSize _ 0 [] 0 hn)
      (Nat.le_trans (parseBufString_bound v.dataSize _ 0 [] 0 (by simp)) hsz)

/-- `OobStep` of the command machine with `OobA` of the state after it (which speaks of the two argument states only) -/
def OobStepA (D : Desc) (s s' : St) : Prop := s'.oob = s.oob ∧ OobF D s' .cmd ∧ OobA D s'

theorem OobA.other {D : Desc} {s : St} (h : ¬ (s.state = .parseCommandArgs ∨ s.state = .parseWriteArgs)) : OobA D s :=
  ⟨fun e => absurd (.inl e) h, fun e => absurd (.inr e) h⟩

theorem OobStep.toA {D : Desc} {s s' : St} (h : OobStep D .cmd s s')
    (ha : ¬ (s'.state = .parseCommandArgs ∨ s'.state = .parseWriteArgs)) : OobStepA D s s' := ⟨h.1, h.2, .other ha⟩

theorem ack_toA {D : Desc} (hd : DescOk D) (s t : St) (ho : t.oob = s.oob) :
    OobStepA D s (ackError D t) ∧ OobStepA D s (ackOk D t) :=
  ⟨((ackError_oob hd t).of_eq ho).toA (by simp), ((ackOk_oob hd t).of_eq ho).toA (by simp)⟩

theorem OobStepA.args {D : Desc} {s s' : St} (ho : s'.oob = s.oob) (hs : s'.state = .parseCommandArgs)
    (ha : s'.length < D.cmdCap ∧ getB D s' .cmd s'.length = 0) : OobStepA D s s' :=
  ⟨ho, .other (congrArg CState.ph hs), fun _ => ha, fun h => by simp [hs] at h⟩

theorem OobStepA.wargs {D : Desc} {s s' : St} (ho : s'.oob = s.oob) (hs : s'.state = .parseWriteArgs)
    (hn : HasNul D s' .cmd s'.position) : OobStepA D s s' :=
  ⟨ho, .other (congrArg CState.ph hs), fun h => by simp [hs] at h, fun _ => hn⟩

theorem OobStepA.plain {D : Desc} {s s' : St} (ho : s'.oob = s.oob) (h : s'.state.ph = .other)
    (ha : ¬ (s'.state = .parseCommandArgs ∨ s'.state = .parseWriteArgs)) : OobStepA D s s' :=
  (OobStep.plain (f := .cmd) ho h).toA ha

theorem commandFound_oob {D : Desc} (hd : DescOk D) (s : St) (hc : s.cmd.isSome = true) : OobStepA D s (commandFound D s).1 := by
  simp only [commandFound, hc, chkUb_true]
  have ae := (ack_toA hd s s rfl).1
  generalize D.cmdD s.cmd = c
  split
  · exact rel_ite (fun _ => ae) fun _ => rel_ite (fun _ => ae) fun _ => .plain rfl rfl nofun
  · refine rel_ite (fun _ => ae) fun _ => ?_
    have g := startFormatRead_cmd_state D s
    exact (startFormatRead_oob hd s .cmd).toA fun e => by rcases e with e | e <;> simp [e] at g
  · -- the argument text starts empty: its terminator is stored at the start of the region
    have h0 : 0 < D.capOf .cmd := Nat.lt_of_lt_of_le (by decide) hd.ack
    refine .args (setB_oob_lt D _ .cmd 0 0 h0) rfl ?_
    rw [show ({ setB D { s with length := 0 } .cmd 0 0 with state := .parseCommandArgs } : St).length = 0 by simp]
    exact ⟨h0, getB_setB_zero D _ .cmd 0 h0⟩
  · exact ae

/-- One more byte of the argument text: it is stored only where its terminator still fits behind it, so the text
stays terminated inside the region; at the end of the line the terminated text is handed to the argument parsers. -/
theorem parseCommandArgs_oob {D : Desc} (hd : DescOk D) (s : St) (i : SvcIn) (hs : s.state = .parseCommandArgs)
    (ha : s.length < D.cmdCap ∧ getB D s .cmd s.length = 0) : OobStepA D s (parseCommandArgs D s i).1 := by
  rw [parseCommandArgs_eq]
  refine reader_fst s i (.args rfl hs ha) fun b => ?_
  simp only [readerBody]
  generalize hs0 : (rdChar s b).chkUb _ = s0
  obtain ⟨o0, st0, ha0⟩ : s0.oob = s.oob ∧ s0.state = .parseCommandArgs ∧ s0.length < D.cmdCap ∧ getB D s0 .cmd s0.length = 0 := by
    rw [← hs0]; simpa [rdChar, hs, getB] using ha
  have ae := (ack_toA hd s s0 o0).1
  generalize D.cmdD s0.cmd = c
  clear hs0
  refine rel_ite (fun _ => ?_) fun _ => rel_ite (fun _ => ?_) fun _ => rel_ite (fun _ => ?_) fun _ => rel_ite (fun _ => ?_) fun _ => ?_
  · refine rel_ite (fun _ => ae) fun _ => rel_ite (fun _ => rel_ite (fun _ => ae) fun _ => ?_) fun _ =>
      rel_ite (fun _ => ae) fun _ => .plain o0 rfl nofun
    exact .wargs o0 rfl ⟨s0.length, Nat.zero_le _, ha0.1, ha0.2⟩
  · exact .args o0 st0 ha0
  · exact .plain o0 rfl nofun
  · exact .plain o0 rfl nofun
  · have e1 : (setB D s0 .cmd s0.length s0.currentChar).state = s0.state := by simp
    have o1 := setB_oob_lt D s0 .cmd s0.length s0.currentChar ha0.1
    generalize setB D s0 .cmd s0.length s0.currentChar = s1 at e1 o1
    refine rel_ite (fun hlt2 => ?_) fun _ => .plain (o1.trans o0) rfl nofun
    have hlt2 : s1.length + 1 < D.capOf .cmd := hlt2
    refine .args ((setB_oob_lt D _ .cmd _ _ hlt2).trans (o1.trans o0)) (by simp [e1, st0]) ?_
    rw [show (setB D { s1 with length := s1.length + 1 } .cmd (s1.length + 1) 0).length = s1.length + 1 by simp]
    exact ⟨hlt2, getB_setB_zero D _ .cmd _ hlt2⟩

def BufOk (D : Desc) (s : St) : Prop := D.cmdCap ≤ s.buf.length

theorem hasNul_region {D : Desc} {s : St} {p : Nat} (hb : BufOk D s) : HasNul D s .cmd p ↔ 0 ∈ region D s .cmd p := by
  have e : ∀ n, n < D.cmdCap → (s.buf.getD n 0 = 0 ↔ s.buf[n]? = some 0) := fun n hn => by
    rw [List.getD, List.getElem?_eq_getElem (Nat.lt_of_lt_of_le hn hb)]; simp
  simp only [HasNul, region, getB, Desc.capOf, List.mem_iff_getElem?, List.getElem?_drop, List.getElem?_take]
  constructor
  · rintro ⟨n, h1, h2, h3⟩
    exact ⟨n - p, by rw [show p + (n - p) = n by omega, if_pos h2]; exact (e n h2).1 h3⟩
  · rintro ⟨k, h⟩
    split at h
    · rename_i hk; exact ⟨p + k, by omega, hk, (e _ hk).2 h⟩
    · cases h

theorem parseWriteArgs_oob {D : Desc} (hd : DescOk D) (s : St) (i : SvcIn) (hs : s.state = .parseWriteArgs)
    (hw : HasNul D s .cmd s.position) (hb : BufOk D s) (hc : s.cmd.isSome = true) (hv : s.index < (D.cmdD s.cmd).varNum)
    (hm : MemOk D s) (hr : RingInv D s) : OobStepA D s (parseWriteArgs D s i).1 := by
  simp only [parseWriteArgs, hc, chkUb_true, hv, decide_true, apply_ite Prod.fst]
  have hmem := varAt_mem _ _ hv
  generalize (D.cmdD s.cmd).varAt s.index = v at hmem
  have pv := parseVarValue_oob D s v ((hasNul_region hb).1 hw) (hm s.cmd v hmem)
  have pk : (parseVarValue D s v).1.state = .parseWriteArgs ∧ SameR s (parseVarValue D s v).1 ∧ (parseVarValue D s v).1.buf = s.buf := by
    simp [hs]
  generalize parseVarValue D s v = r1 at pv pk ⊢
  refine rel_ite (fun _ => (ack_toA hd s _ pv.1).1) fun _ => ?_
  obtain ⟨cb, -, o2⟩ := varWriteCb_still D r1.1 v i (hr.congr pk.2.1)
  generalize (varWriteCb D r1.1 v i).1 = s2 at cb o2 ⊢
  have o2 := o2.trans pv.1
  have a2 := ack_toA hd s { s2 with index := s2.index + 1 } o2
  refine rel_ite (fun _ => (ack_toA hd s s2 o2).1) fun _ => rel_ite (fun hm2 => ?_) fun _ => rel_ite (fun _ => a2.1) fun _ =>
    rel_ite (fun _ => a2.1) fun _ => rel_ite (fun _ => a2.2) fun _ => .plain o2 rfl nofun
  -- more arguments follow: the NUL of the text is still ahead
  simp only [Bool.and_eq_true, decide_eq_true_eq] at hm2
  have h1 : HasNul D r1.1 .cmd r1.1.position := (hasNul_region (by unfold BufOk; rw [pk.2.2]; exact hb)).2 (pv.2 hm2.2)
  exact .wargs o2 (by simp [cb.c, pk.1]) (by rw [cb.p.1]; exact h1.congr cb.b)

theorem printCurrentCmdFullName_oob (D : Desc) (s : St) (x : List Byte) (hp : s.pos .cmd ≤ D.capOf .cmd) :
    Printed D .cmd s (printCurrentCmdFullName D s x) := by
  unfold printCurrentCmdFullName
  simp only
  generalize D.cmdD s.cmd = c
  split
  · have pa := printN_oob D s .cmd (nlStr s) hp
    generalize printN D s .cmd (nlStr s) = r at pa
    obtain ⟨s1, ok⟩ := r
    cases ok
    · exact ⟨pa.1, nofun⟩
    · exact (printAll_oob D .cmd _ { s1 with length := 1 } (Nat.le_of_lt (pa.2 rfl).1) (by simp)).of_eq pa.1
  · exact printAll_oob D .cmd _ s hp (by simp)

theorem printCmdForm_oob {D : Desc} (hd : DescOk D) (t : St) (avail : Bool) (x : List Byte) (next : CmdType)
    (hph : t.ph .cmd = .other) : OobStep D .cmd t (printCmdForm D t avail x next) := by
  simp only [printCmdForm]
  refine rel_ite (fun _ => ?_) fun _ => .plain rfl hph
  have pc := printCurrentCmdFullName_oob D { t with position := 0 } x (Nat.zero_le _)
  generalize printCurrentCmdFullName D { t with position := 0 } x = r at pc ⊢
  -- the line goes out as a raw unit
  exact rel_ite (fun _ => (ackError_oob hd _).of_eq pc.1) fun ok =>
    ⟨pc.1, .ofEntry ⟨rfl, .inr ⟨rfl, rfl⟩⟩ ((pc.2 (by simpa using ok)).hasNul.congr ⟨rfl, rfl⟩) rfl⟩

theorem cmdListNextCmd_oob {D : Desc} (t : St) : OobTry D .cmd t (cmdListNextCmd D t) := by
  simp only [cmdListNextCmd]
  exact rel_ite (fun _ => ⟨rfl, nofun⟩) fun _ => ⟨rfl, fun _ => .other rfl⟩

theorem printCmdList_oob {D : Desc} (hd : DescOk D) (s : St) (hi : s.index < D.commandsNum) (hph : s.ph .cmd = .other) :
    OobStep D .cmd s (printCmdList D s) := by
  simp only [printCmdList, hi, decide_true, chkUb_true]
  have n := cmdListNextCmd_oob (D := D) { s with cmd := some s.index }
  have fm := fun avail x next => printCmdForm_oob hd { s with cmd := some s.index } avail x next hph
  split
  · exact rel_ite (fun _ => rel_ite (fun hm => ⟨n.1, n.2 hm⟩) fun _ => (ackOk_oob hd _).of_eq n.1) fun _ => .plain rfl hph
  iterate 4 exact fm _ _ _
  · exact rel_ite (fun hm => ⟨n.1, n.2 hm⟩) fun _ => (ackOk_oob hd _).of_eq n.1

/-- what `cat_init` is given and every step keeps: the descriptor's side conditions, storage blocks and command buffer of the
declared sizes, a consistent event ring -/
structure Wf (D : Desc) (s : St) : Prop where
  desc : DescOk D
  mem : MemOk D s
  ring : RingInv D s
  buf : BufOk D s

theorem args_pred (D : Desc) (s : St) (i : SvcIn)
    (h : (commandService D s i).1.state = .parseCommandArgs ∨ (commandService D s i).1.state = .parseWriteArgs) :
    s.state = .commandFound ∨ s.state = .parseCommandArgs ∨ s.state = .parseWriteArgs := by
  have g := commandService_succ D s i
  revert g
  rcases h with h | h <;> rw [h] <;> unfold cmdSucc <;> cases s.state <;> simp
  · split <;> simp
  · cases s.writeStateAfter <;> simp [After.toC]
  · split <;> simp
  · cases s.writeStateAfter <;> simp [After.toC]

theorem commandService_oobF {D : Desc} (s : St) (i : SvcIn) (w : Wf D s) (u : UbInv D s) (o : OobF D s .cmd)
    (ha : ¬ (s.state = .commandFound ∨ s.state = .parseCommandArgs ∨ s.state = .parseWriteArgs)) :
    OobStep D .cmd s (commandService D s i).1 := by
  have hd := w.desc
  have ph : ∀ {st}, s.state = st → s.ph .cmd = st.ph := congrArg CState.ph
  have rd : Reading s.state → s.ph .cmd = .other → OobStep D .cmd s (commandService D s i).1 := fun hr hph => by
    rw [commandService_reader i hr]
    exact reader_fst s i (.plain rfl hph) fun b =>
      (readerBody_oob hd s.state (rdChar s b) hr (fun e => ha (.inr (.inl e))) hph).of_eq rfl
  have pl : (commandService D s i).1.oob = s.oob → (∀ st ∈ cmdSucc s, st.ph = .other) → OobStep D .cmd s (commandService D s i).1 :=
    fun ho h => .plain ho (h _ (commandService_succ D s i))
  cases hs : s.state
  case error | idle | parsePrefix | parseCommandChar | waitReadAck | waitTestAck =>
    exact rd (by simp [Reading, hs]) (ph hs)
  case commandFound | parseCommandArgs | parseWriteArgs => exact absurd (by simp [hs]) ha
  case writeLoop | runLoop =>
    rw [commandService_loop i (by rw [hs]; rfl)]; exact loopStep_oob hd s .cmd _ i.hc w.ring ⟨rfl, ph hs⟩
  case readLoop | testLoop =>
    rw [commandService_loop i (by rw [hs]; rfl)]; exact loopStep_oob hd s .cmd _ i.hc w.ring ⟨o.loop (ph hs), ph hs⟩
  case updateCommandState =>
    refine pl ?_ (by simp [cmdSucc, hs, CState.ph])
    simp only [commandService, hs]; exact updateCommand_oob hd s (u.idx (.inl hs))
  case searchCommand =>
    refine pl ?_ (by simp [cmdSucc, hs, CState.ph])
    simp only [commandService, hs]; exact searchCommand_oob hd s (u.idx (.inr (.inl hs)))
  all_goals simp only [commandService, hs]
  case commandNotFound => exact ackError_oob hd s
  case formatReadArgs => exact formatReadArgs_oob hd s .cmd i (ph hs) (UbF.fmt (f := .cmd) u (.inl hs)) w.ring w.mem
  case formatTestArgs => exact formatTestArgs_oob hd s .cmd (ph hs) (UbF.fmt (f := .cmd) u (.inr hs))
  case hold => exact processHoldState_oob hd s (ph hs)
  case flushWait => exact ioWait_oob s .cmd hs o
  case flushWrite => exact ioWrite_oob s .cmd i hs o
  case afterFlushReset => exact .plain (by simp) (by unfold resetState; split <;> rfl)
  case afterFlushOk => exact ackOk_oob hd s
  case afterFlushFormatRead => exact startFormatRead_oob hd s .cmd
  case afterFlushFormatTest => exact startFormatTest_oob hd s .cmd
  case printCmd => exact printCmdList_oob hd s (u.idx (.inr (.inr (.inl hs)))) (ph hs)

theorem commandService_oob {D : Desc} (s : St) (i : SvcIn) (w : Wf D s) (u : UbInv D s) (o : OobF D s .cmd) (a : OobA D s) :
    OobStepA D s (commandService D s i).1 := by
  by_cases ha : s.state = .commandFound ∨ s.state = .parseCommandArgs ∨ s.state = .parseWriteArgs
  · rcases ha with hs | hs | hs <;> simp only [commandService, hs]
    · exact commandFound_oob w.desc s (u.cmd (by simp [NeedsCmd, hs]))
    · exact parseCommandArgs_oob w.desc s i hs (a.args hs)
    · exact parseWriteArgs_oob w.desc s i hs (a.wargs hs) w.buf (u.cmd (by simp [NeedsCmd, hs])) (u.var (.inl hs)) w.mem w.ring
  · exact (commandService_oobF s i w u o ha).toA fun e => ha (args_pred D s i e)

theorem checkUnsolicitedBuffers_oob {D : Desc} (hd : DescOk D) (s : St) (hph : s.ph .uns = .other) (hr : RingInv D s) :
    OobStep D .uns s (checkUnsolicitedBuffers D s) :=
  checkUnsolicitedBuffers_cases D s (fun _ => .plain rfl hph) fun hpos s1 hs1 => by
    have o1 : s1.oob = s.oob := by rw [hs1]; simpa using (pop_ok D s hr hpos).2.2
    have ph1 : s1.ph .uns = .other := by rw [hs1]; simpa [St.ph] using hph
    exact ⟨(startFormatRead_oob hd s1 .uns).of_eq o1, (startFormatTest_oob hd s1 .uns).of_eq o1, .plain o1 ph1⟩

theorem unsolicitedEventsService_oob {D : Desc} (s : St) (i : SvcIn) (w : Wf D s) (u : UbInvU D s) (o : OobF D s .uns) :
    OobStep D .uns s (unsolicitedEventsService D s i).1 := by
  have hd := w.desc
  have ph : ∀ {st}, s.ustate = st → s.ph .uns = st.ph := congrArg UState.ph
  unfold unsolicitedEventsService
  cases hs : s.ustate <;> simp only
  case idle => exact checkUnsolicitedBuffers_oob hd s (ph hs) w.ring
  case formatReadArgs => exact formatReadArgs_oob hd s .uns i (ph hs) (UbF.fmt (f := .uns) u (.inl hs)) w.ring w.mem
  case formatTestArgs => exact formatTestArgs_oob hd s .uns (ph hs) (UbF.fmt (f := .uns) u (.inr hs))
  case readLoop => rw [processReadLoop_eq]; exact loopStep_oob hd s .uns .read _ w.ring ⟨o.loop (ph hs), ph hs⟩
  case testLoop => rw [processTestLoop_eq]; exact loopStep_oob hd s .uns .test _ w.ring ⟨o.loop (ph hs), ph hs⟩
  case flushWait => exact ioWait_oob s .uns hs o
  case flushWrite => exact ioWrite_oob s .uns i hs o
  case afterFlushReset => exact .plain rfl rfl
  case afterFlushOk => exact endOk_oob hd s .uns
  case afterFlushFormatRead => exact startFormatRead_oob hd s .uns
  case afterFlushFormatTest => exact startFormatTest_oob hd s .uns

end Cat
