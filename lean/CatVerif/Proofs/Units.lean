/-
  Output units (C11), the single step.  Both machines send a unit the same way — opening line break, the text in the
  machine's region up to its NUL, closing line break; or the bare text of a command-list line — so the step is described
  once, for machine `f` (`ioWrite_acct`).  `remC`, `FlushInv`, `outC` are the command machine's vocabulary in the C11
  statements.
-/
import CatVerif.Proofs.StepU
import CatVerif.Proofs.Resolve
namespace Cat
open St

def payload (D : Desc) (s : St) (f : Fsm) : List Byte := (region D s f 0).takeWhile (· ≠ 0)

def payloadC (D : Desc) (s : St) : List Byte := (region D s .cmd 0).takeWhile (· ≠ 0)

def nlBytes (off : Nat) : List Byte := ([13, 10] : List Byte).drop off

/-- the bytes `write_buf` of machine `f` points at -/
def srcBytes (D : Desc) (s : St) (f : Fsm) : List Byte :=
  match s.wsrc f with
  | .nl off => nlBytes off
  | .main => payload D s f

/-- a unit of machine `f` is in progress and its closing line break has not been chosen -/
def OpenF (s : St) (f : Fsm) : Prop := s.ph f = .flush ∧ s.wst f < 2

/-- bytes machine `f` has still to get accepted for the unit in progress.  The closing line break is chosen only when the
text has been sent, from the `cr_flag` then in force, and is not part of `remF` before (phase 2). -/
def remF (D : Desc) (s : St) (f : Fsm) : List Byte :=
  if s.ph f = .flush then (srcBytes D s f).drop (s.pos f) ++ (if s.wst f = 0 then payload D s f else []) else []

/-- bytes of machine `f` accepted by `write` in a log -/
def outF (f : Fsm) (l : List Ev) : List Byte :=
  l.filterMap (fun e => match e with
    | .wr g b true _ => if g = f then some b else none
    | _ => none)

@[simp] theorem outF_append (f : Fsm) (a b : List Ev) : outF f (a ++ b) = outF f a ++ outF f b := by simp [outF]

theorem outF_wr (f : Fsm) (b : Byte) (acc : Bool) (p : Char) : outF f [.wr f b acc p] = if acc then [b] else [] := by
  cases acc <;> simp [outF]

structure FlushInvF (D : Desc) (s : St) (f : Fsm) : Prop where
  term : (payload D s f).length < (region D s f 0).length
  cursor : s.wsrc f = .main → s.pos f ≤ (payload D s f).length
  phase : (s.wst f = 0 ∧ ∃ off, s.wsrc f = .nl off) ∨ (s.wst f = 1 ∧ s.wsrc f = .main) ∨ s.wst f = 2

def FlushOkF (D : Desc) (s : St) (f : Fsm) : Prop := s.ph f = .flush → FlushInvF D s f

theorem region_congr {D : Desc} {s s' : St} (f : Fsm) (i : Nat) (h : SameBuf s s') : region D s' f i = region D s f i := by
  simp [region, h.1, h.2]

theorem region_length_le (D : Desc) (s : St) (f : Fsm) : (region D s f 0).length ≤ D.capOf f := by
  cases f
  · simp [region, Desc.capOf]; omega
  · simp only [region, Desc.capOf]; split <;> (simp; omega)

theorem getB_region (D : Desc) (s : St) (f : Fsm) (p : Nat) (hp : p < D.capOf f) : getB D s f p = (region D s f 0).getD p 0 := by
  cases f
  · have hp' : p < D.cmdCap := hp
    simp [region, getB, List.getD, hp']
  · have hp' : p < D.unsCap := hp
    simp only [region, getB]; split <;> simp [List.getD, hp']

theorem region_length {D : Desc} {s : St} {f : Fsm} (hb : BufLen D s f) : (region D s f 0).length = D.capOf f := by
  cases f
  · simp only [BufLen] at hb
    simp [region, Desc.capOf]; omega
  · simp only [BufLen, BufOkU] at hb
    simp only [region, Desc.capOf]
    split at hb <;> rename_i h <;> (simp [h]; omega)

theorem nlBytes_get (off p : Nat) :
    (([13, 10, 0] : List Byte).getD (off + p) 0 = 0 → (nlBytes off).drop p = []) ∧
    (([13, 10, 0] : List Byte).getD (off + p) 0 ≠ 0 →
      (nlBytes off).drop p = ([13, 10, 0] : List Byte).getD (off + p) 0 :: (nlBytes off).drop (p + 1)) := by
  simp only [nlBytes, List.drop_drop, ← Nat.add_assoc]
  generalize off + p = m
  match m with
  | 0 => simp [List.getD]
  | 1 => simp [List.getD]
  | n + 2 => cases n <;> simp [List.getD]

theorem takeWhile_get (r : List Byte) : ∀ p, p ≤ (r.takeWhile (· ≠ 0)).length →
    (r.getD p 0 = 0 → (r.takeWhile (· ≠ 0)).drop p = []) ∧
    (r.getD p 0 ≠ 0 → (r.takeWhile (· ≠ 0)).drop p = r.getD p 0 :: (r.takeWhile (· ≠ 0)).drop (p + 1) ∧
        p + 1 ≤ (r.takeWhile (· ≠ 0)).length) := by
  induction r with
  | nil => intro p _; simp
  | cons a t ih =>
    intro p hp
    by_cases ha : a = 0
    · have : p = 0 := by simpa [ha] using hp
      simp [ha, this]
    · rw [show (a :: t).takeWhile (· ≠ 0) = a :: t.takeWhile (· ≠ 0) by simp [ha]] at hp ⊢
      cases p with
      | zero => simp [List.getD, ha]
      | succ q => simpa [List.getD] using ih q (by simpa using hp)

theorem nlStr_eq (s : St) : nlStr s = nlBytes (nlOff s) := by
  unfold nlStr nlBytes nlOff; split <;> rfl

theorem srcBytes_main {D : Desc} {s : St} {f : Fsm} (h : s.wsrc f = .main) : srcBytes D s f = payload D s f := by
  simp only [srcBytes, h]

theorem srcBytes_nl {D : Desc} {s : St} {f : Fsm} {off : Nat} (h : s.wsrc f = .nl off) : srcBytes D s f = nlBytes off := by
  simp only [srcBytes, h]

theorem cursor_byte {D : Desc} {s : St} {f : Fsm} (hv : FlushInvF D s f) :
    ((writeByte D s f).1 = 0 → (srcBytes D s f).drop (s.pos f) = []) ∧
    ((writeByte D s f).1 ≠ 0 →
      (srcBytes D s f).drop (s.pos f) = (writeByte D s f).1 :: (srcBytes D s f).drop (s.pos f + 1) ∧
      (s.wsrc f = .main → s.pos f + 1 ≤ (payload D s f).length)) := by
  rw [writeByte_eq]
  cases hsrc : s.wsrc f with
  | nl off =>
    rw [srcBytes_nl hsrc]
    have g := nlBytes_get off (s.pos f)
    exact ⟨g.1, fun h => ⟨g.2 h, nofun⟩⟩
  | main =>
    have g := takeWhile_get (region D s f 0) (s.pos f) (hv.cursor hsrc)
    rw [← getB_region D s f _ (by have := hv.term; have := hv.cursor hsrc; have := region_length_le D s f; omega)] at g
    rw [srcBytes_main hsrc]
    exact ⟨g.1, fun h => ⟨(g.2 h).1, fun _ => (g.2 h).2⟩⟩

theorem ioWrite_buf (D : Desc) (s : St) (f : Fsm) (i : SvcIn) :
    SameBuf s (ioWrite D s f i).1 ∧ (ioWrite D s f i).1.crFlag = s.crFlag := by
  cases f <;> simp

theorem remF_congr {D D' : Desc} {s s' : St} {f : Fsm} (hph : s'.ph f = s.ph f) (hr : region D' s' f 0 = region D s f 0)
    (hw : s'.wst f = s.wst f) (hsrc : s'.wsrc f = s.wsrc f) (hp : s'.pos f = s.pos f) : remF D' s' f = remF D s f := by
  simp only [remF, srcBytes, payload, hph, hr, hw, hsrc, hp]

theorem remF_move {D : Desc} {s s' : St} {f : Fsm} (hs : s'.writing f) (hr : region D s' f 0 = region D s f 0)
    (hw : s'.wst f = s.wst f) (hsrc : s'.wsrc f = s.wsrc f) :
    remF D s' f = (srcBytes D s f).drop (s'.pos f) ++ (if s.wst f = 0 then payload D s f else []) := by
  simp only [remF, srcBytes, payload, (ph_flush_iff s' f).2 (.inr hs), hr, hw, hsrc, if_true]

theorem FlushInvF.move {D D' : Desc} {s s' : St} {f : Fsm} (hv : FlushInvF D s f) (hr : region D' s' f 0 = region D s f 0)
    (hc : s'.wsrc f = .main → s'.pos f ≤ (payload D s f).length)
    (hp : (s'.wst f = 0 ∧ ∃ off, s'.wsrc f = .nl off) ∨ (s'.wst f = 1 ∧ s'.wsrc f = .main) ∨ s'.wst f = 2) :
    FlushInvF D' s' f := by
  have pl : payload D' s' f = payload D s f := by simp only [payload, hr]
  exact ⟨by rw [pl, hr]; exact hv.term, by rw [pl]; exact hc, hp⟩

/-- **One write step of machine `f`**: what has been accepted so far followed by what remains of the unit does not change —
an accepted byte moves from the head of the remainder to the output, a refused byte and a change of phase move nothing —
except that the closing line break (`extra`) joins the remainder when the text has been sent, chosen from the `cr_flag` in
force then; and the unit's bookkeeping stays consistent until the machine leaves the state, which it does only when
nothing remains. -/
theorem ioWrite_acct {D : Desc} {s : St} {f : Fsm} (i : SvcIn) (hs : s.writing f) (hv : FlushInvF D s f) :
    ∃ extra : List Byte,
      ((extra = [] ∧ (OpenF (ioWrite D s f i).1 f ↔ OpenF s f)) ∨
       (extra = nlStr s ∧ OpenF s f ∧ ¬ OpenF (ioWrite D s f i).1 f)) ∧
      outF f (ioWrite D s f i).1.log ++ remF D (ioWrite D s f i).1 f = outF f s.log ++ remF D s f ++ extra ∧
      ((ioWrite D s f i).1.writing f → FlushInvF D (ioWrite D s f i).1 f) ∧
      (¬ (ioWrite D s f i).1.writing f → remF D s f = [] ∧ s.wst f = 2 ∧ (ioWrite D s f i).1.ph f ≠ .flush) := by
  have hph : s.ph f = .flush := (ph_flush_iff s f).2 (.inr hs)
  have rg : region D (ioWrite D s f i).1 f 0 = region D s f 0 := region_congr f 0 (ioWrite_buf D s f i).1
  have cb := cursor_byte hv
  have hleave : ¬ (ioWrite D s f i).1.writing f → remF D s f = [] ∧ s.wst f = 2 ∧ (ioWrite D s f i).1.ph f ≠ .flush :=
    fun h => by
      obtain ⟨hz, h2, e⟩ := ioWrite_leaves i hs h
      exact ⟨by simp [remF, cb.1 hz, h2], h2, by simp [e]⟩
  generalize hs' : (ioWrite D s f i).1 = s' at rg hleave ⊢
  rw [ioWrite_fst] at hs'
  simp only [] at hs'
  by_cases hz : (writeByte D s f).1 = 0
  · -- the current source is exhausted: next phase, or the end of the unit
    have e0 := cb.1 hz
    simp only [hz, beq_self_eq_true, if_true, chk_unit] at hs'
    rcases hv.phase with ⟨h0, off, hsrc⟩ | ⟨h1, hsrc⟩ | h2
    · simp only [h0, beq_self_eq_true, if_true] at hs'
      subst hs'
      refine ⟨[], Or.inl ⟨rfl, by simp [OpenF, h0]⟩, ?_, fun _ => hv.move rg (by simp) (by simp), hleave⟩
      simp [remF, hph, srcBytes_main, payload, rg, h0, e0]
    · simp only [h1, Nat.reduceBEq, Bool.false_eq_true, if_false, if_true] at hs'
      subst hs'
      refine ⟨nlStr s, Or.inr ⟨rfl, ⟨hph, by omega⟩, by simp [OpenF]⟩, ?_, fun _ => hv.move rg (by simp) (by simp), hleave⟩
      have e1 : nlBytes (nlOff (s.chk (writeByte D s f).2)) = nlStr s := by
        rw [← nlStr_eq]; simp [nlStr]
      simp [remF, hph, srcBytes_nl, h1, e0, e1]
    · simp only [h2, Nat.reduceBEq, Bool.false_eq_true, if_false, if_true] at hs'
      subst hs'
      refine ⟨[], Or.inl ⟨rfl, by simp [OpenF, h2]⟩, ?_, fun h => absurd ((ph_flush_iff _ f).2 (Or.inr h)) (by simp), hleave⟩
      simp [remF, hph, h2, e0, outF]
  · -- a byte is offered
    have e1 := cb.2 hz
    simp only [beq_iff_eq, hz, if_false] at hs'
    generalize unitPart _ _ = part at hs'
    cases hw : i.wr
    · simp only [hw, Bool.not_false, if_true] at hs'
      subst hs'
      refine ⟨[], Or.inl ⟨rfl, by simp [OpenF]⟩, ?_, fun _ => hv.move rg (by simpa using hv.cursor) (by simpa using hv.phase), hleave⟩
      rw [remF_congr (by simp) rg (by simp) (by simp) (by simp)]; simp [outF_wr]
    · simp only [hw, Bool.not_true, Bool.false_eq_true, if_false] at hs'
      subst hs'
      refine ⟨[], Or.inl ⟨rfl, by simp [OpenF]⟩, ?_, fun _ => hv.move rg (by simpa using e1.2) (by simpa using hv.phase), hleave⟩
      rw [remF_move (by simpa using hs) rg (by simp) (by simp), setPos_pos]
      simp [remF, hph, e1.1, outF_wr]

/-- nothing a unit of machine `f` depends on differs between `s` under `D` and `s'` under `D'` -/
structure UnitSameF (D D' : Desc) (f : Fsm) (s s' : St) : Prop where
  ph : s'.ph f = s.ph f
  wst : s'.wst f = s.wst f
  wsrc : s'.wsrc f = s.wsrc f
  pos : s'.pos f = s.pos f
  reg : region D' s' f 0 = region D s f 0

theorem UnitSameF.payload {D D' : Desc} {f : Fsm} {s s' : St} (h : UnitSameF D D' f s s') : payload D' s' f = payload D s f := by
  simp only [Cat.payload, h.reg]

theorem UnitSameF.inv {D D' : Desc} {f : Fsm} {s s' : St} (h : UnitSameF D D' f s s') (hv : FlushInvF D s f) :
    FlushInvF D' s' f :=
  hv.move h.reg (by rw [h.wsrc, h.pos]; exact hv.cursor) (by rw [h.wst, h.wsrc]; exact hv.phase)

theorem UnitSameF.trans {D : Desc} {f : Fsm} {a b c : St} (h1 : UnitSameF D D f a b) (h2 : UnitSameF D D f b c) : UnitSameF D D f a c :=
  ⟨h2.ph.trans h1.ph, h2.wst.trans h1.wst, h2.wsrc.trans h1.wsrc, h2.pos.trans h1.pos, h2.reg.trans h1.reg⟩

theorem ioWait_same (D : Desc) {s : St} {f : Fsm} (hs : s.waiting f) : UnitSameF D D f s (ioWait s f).1 ∧ (ioWait s f).1.log = s.log := by
  have hp := waiting_ph hs
  cases f <;> simp only [ioWait, processIoWriteWait, unsolicitedProcessIoWriteWait] <;> split
  · exact ⟨⟨hp.symm, rfl, rfl, rfl, rfl⟩, rfl⟩
  · exact ⟨⟨rfl, rfl, rfl, rfl, rfl⟩, rfl⟩
  · exact ⟨⟨hp.symm, rfl, rfl, rfl, rfl⟩, rfl⟩
  · exact ⟨⟨rfl, rfl, rfl, rfl, rfl⟩, rfl⟩

def wrCls : Fsm → Cls
  | .cmd => .wrC
  | .uns => .wrU

theorem outF_tr (f : Fsm) (l : List Ev) : outF f l = outF f (tr (wrCls f) l) :=
  filterMap_tr (wrCls f) _ (fun e h => by
    split
    · rename_i _ g _ _
      rw [if_neg]; rintro rfl; cases g <;> simp [cls, wrCls] at h
    · rfl) l

theorem outF_quiet {f : Fsm} {s s' : St} (h : Quiet (wrCls f) s s') : outF f s'.log = outF f s.log := by
  rw [outF_tr, outF_tr f s.log]; exact congrArg _ h

structure OtherStep (D : Desc) (f : Fsm) (s s' : St) : Prop where
  same : UnitSameF D D f s s'
  out : outF f s'.log = outF f s.log
  waiting : s'.waiting f ↔ s.waiting f
  writing : s'.writing f ↔ s.writing f

/-- `hu`: the unsolicited handlers do not answer HOLD.  The other machine cannot store into `f`'s region (C03) nor touch
its cursor, and none of the bytes it gets accepted are `f`'s. -/
theorem machineStep_other (D : Desc) (s : St) (f : Fsm) (i : SvcIn) (hu : i.hu.ret ≠ 4) :
    OtherStep D f s (machineStep D s f.other i).1 := by
  cases f
  · show OtherStep D .cmd s (unsolicitedEventsService D s i).1
    have k := unsolicitedEventsService_keepsC D s i hu
    have r := (unsolicitedEventsService_keepsCR D s i).1
    have q := unsolicitedEventsService_quiet .wrC (by decide) D s i (.of_ne (by decide) (by decide)) (.of_ne (by decide) (by decide))
    refine ⟨⟨?_, ?_, ?_, ?_, by simp only [region, List.drop_zero, r]⟩, outF_quiet q, ?_, ?_⟩ <;>
      simp [St.ph, St.wst, St.wsrc, St.pos, St.waiting, St.writing, k]
  · show OtherStep D .uns s (commandService D s i).1
    have k := commandService_keepsU D s i
    have r := commandService_keepsUR D s i
    have q := commandService_quiet .wrU (by decide) D s i (.of_ne (by decide) (by decide)) (.of_ne (by decide) (by decide))
    refine ⟨⟨?_, ?_, ?_, ?_, ?reg⟩, outF_quiet q, ?_, ?_⟩
    case reg =>
      simp only [region]
      cases hb : D.unsBuf.isSome
      · simp only [Bool.false_eq_true, if_false, unsBase_eq_cmdCap D hb, r.2.1]
      · simp [r.1]
    all_goals simp [St.ph, St.wst, St.wsrc, St.pos, St.waiting, St.writing, k]

/-- bytes the command machine still has to get accepted for the unit in progress -/
def remC (D : Desc) (s : St) : List Byte :=
  if s.state = .flushWait ∨ s.state = .flushWrite then
    match s.writeState, s.writeSrc with
    | 0, .nl off => (nlBytes off).drop s.position ++ payloadC D s ++ nlStr s
    | 1, .main => (payloadC D s).drop s.position ++ nlStr s
    | 2, .nl off => (nlBytes off).drop s.position
    | 2, .main => (payloadC D s).drop s.position
    | _, _ => []
  else []

/-- bytes of the command machine accepted by `write` in a log -/
def outC (l : List Ev) : List Byte :=
  l.filterMap (fun e => match e with
    | .wr .cmd b true _ => some b
    | _ => none)

@[simp] theorem outC_append (a b : List Ev) : outC (a ++ b) = outC a ++ outC b := by simp [outC]

structure FlushInv (D : Desc) (s : St) : Prop where
  term : (payloadC D s).length < (region D s .cmd 0).length
  cursor : s.writeSrc = .main → s.position ≤ (payloadC D s).length
  phase : (s.writeState = 0 ∧ ∃ off, s.writeSrc = .nl off) ∨ (s.writeState = 1 ∧ s.writeSrc = .main) ∨ s.writeState = 2

theorem flushInv_iff {D : Desc} {s : St} : FlushInv D s ↔ FlushInvF D s .cmd :=
  ⟨fun h => ⟨h.term, h.cursor, h.phase⟩, fun h => ⟨h.term, h.cursor, h.phase⟩⟩

theorem outC_eq : outC = outF .cmd := by
  funext l
  refine congrArg (List.filterMap · l) (funext fun e => ?_)
  cases e with
  | wr g b a p => cases g <;> cases a <;> rfl
  | _ => rfl

theorem remC_idle (D : Desc) (s : St) (h : ¬ (s.state = .flushWait ∨ s.state = .flushWrite)) : remC D s = [] := by
  simp [remC, h]

/-- the command machine's `cr_flag` cannot change while it sends, so its closing line break is known from the start and
counted with the remainder -/
theorem remC_remF {D : Desc} {s : St} (fo : FlushOkF D s .cmd) :
    (OpenF s .cmd → remC D s = remF D s .cmd ++ nlStr s) ∧ (¬ OpenF s .cmd → remC D s = remF D s .cmd) := by
  by_cases hf : s.ph .cmd = .flush
  · have hst : s.state = .flushWait ∨ s.state = .flushWrite := (ph_flush_iff s .cmd).1 hf
    rcases (flushInv_iff.2 (fo hf)).phase with ⟨h0, off, hsrc⟩ | ⟨h1, hsrc⟩ | h2
    · simp [remC, remF, OpenF, srcBytes, St.wst, St.wsrc, St.pos, payload, payloadC, hf, hst, h0, hsrc]
    · simp [remC, remF, OpenF, srcBytes, St.wst, St.wsrc, St.pos, payload, payloadC, hf, hst, h1, hsrc]
    · cases hsrc : s.writeSrc <;>
        simp [remC, remF, OpenF, srcBytes, St.wst, St.wsrc, St.pos, payload, payloadC, hf, hst, h2, hsrc]
  · rw [remC_idle D s (fun g => hf ((ph_flush_iff s .cmd).2 g))]
    simp [remF, OpenF, hf]

theorem remC_congr {D : Desc} {s s' : St} (h : UnitSameF D D .cmd s s') (hcr : s'.crFlag = s.crFlag) : remC D s' = remC D s := by
  have st : (s'.state = .flushWait ∨ s'.state = .flushWrite) ↔ (s.state = .flushWait ∨ s.state = .flushWrite) :=
    (ph_flush_iff s' .cmd).symm.trans (h.ph ▸ ph_flush_iff s .cmd)
  have a : s'.writeState = s.writeState := h.wst
  have b : s'.writeSrc = s.writeSrc := h.wsrc
  have c : s'.position = s.position := h.pos
  have p : payloadC D s' = payloadC D s := h.payload
  simp only [remC, st, a, b, c, p, nlStr, hcr]

theorem writeB_whole (D : Desc) (s : St) (bs : List Byte) (hl : bs.length = D.cmdCap) (hb : D.cmdCap ≤ s.buf.length) :
    (writeB D s .cmd 0 bs).buf.take D.cmdCap = bs := by
  have hlen : (writeB D s .cmd 0 bs).buf.length = s.buf.length := by simp
  apply List.ext_getElem (by simp; omega)
  intro j h1 h2
  have g := getB_writeB_in D .cmd bs s 0 (by rw [hl, Nat.zero_add]; exact Nat.le_refl _) hb j (by omega)
  rw [Nat.zero_add] at g
  simp only [getB] at g
  simpa [List.getD, List.getElem?_eq_getElem h2, List.getElem?_eq_getElem (show j < (writeB D s .cmd 0 bs).buf.length by omega)] using g

theorem takeWhile_text (str : List Byte) (k : Nat) (hz : ∀ b ∈ str, b ≠ 0) (hk : 0 < k) :
    (str ++ List.replicate k 0).takeWhile (· ≠ 0) = str := by
  obtain ⟨m, rfl⟩ : ∃ m, k = m + 1 := ⟨k - 1, by omega⟩
  rw [List.takeWhile_append_of_pos (by simpa using hz)]; simp [List.replicate_succ]

theorem strncpyC_payload (D : Desc) (s : St) (str : List Byte) (hz : ∀ b ∈ str, b ≠ 0)
    (hl : str.length < D.cmdCap) (hb : D.cmdCap ≤ s.buf.length) :
    payloadC D (strncpyC D s str) = str ∧
    (payloadC D (strncpyC D s str)).length < (region D (strncpyC D s str) .cmd 0).length := by
  have e : (strncpyC D s str).buf.take D.cmdCap = str ++ List.replicate (D.cmdCap - str.length) 0 := by
    unfold strncpyC
    have : str.take D.cmdCap = str := List.take_of_length_le (by omega)
    simp only [this]
    exact writeB_whole D s _ (by simp; omega) hb
  have p : payloadC D (strncpyC D s str) = str := by
    simp only [payloadC, region, List.drop_zero, e]
    exact takeWhile_text str _ hz (by omega)
  refine ⟨p, ?_⟩
  rw [p]
  simp only [region, List.drop_zero, e, List.length_append, List.length_replicate]
  omega

end Cat
