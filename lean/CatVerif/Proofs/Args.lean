/-
  Argument collection (C06): what `parse_command_args` accumulates in the command buffer.
-/
import CatVerif.Proofs.Mem
namespace Cat
open St

structure ArgsOk (cap : Nat) (buf : List Byte) (n : Nat) (args : List Byte) : Prop where
  len : n = args.length
  txt : buf.take n = args
  nul : buf.getD n 0 = 0
  fit : n < cap
  cap : cap ≤ buf.length

def ArgsInv (D : Desc) (s : St) (args : List Byte) : Prop := ArgsOk D.cmdCap s.buf s.length args

/-- what the write handler is given in such a state (`process_write_loop`) -/
theorem ArgsInv.handler_view {D : Desc} {s : St} {args : List Byte} (h : ArgsInv D s args) :
    (region D s .cmd 0).take s.length = args ∧
    (getB D s .cmd s.length == 0 && decide (s.length < D.cmdCap)) = true := by
  have := h.fit
  refine ⟨?_, ?_⟩
  · simp only [region, List.drop_zero, List.take_take]
    rw [Nat.min_eq_left (by omega)]; exact h.txt
  · have := h.nul
    simp only [getB, this, h.fit]; simp

theorem ArgsOk.push {cap : Nat} {buf : List Byte} {n : Nat} {args : List Byte} (h : ArgsOk cap buf n args) (b : Byte)
    (hroom : n + 1 < cap) : ArgsOk cap ((buf.set n b).set (n + 1) 0) (n + 1) (args ++ [b]) := by
  have hc := h.cap
  refine ⟨by simp [h.len], ?_, ?_, hroom, by simpa using hc⟩
  · rw [List.take_set_of_le (by omega), take_set_succ _ _ _ (by omega), h.txt]
  · simp [List.getD, show n + 1 < buf.length by omega]

theorem ArgsOk.empty {cap : Nat} {buf : List Byte} (h0 : 0 < cap) (hc : cap ≤ buf.length) :
    ArgsOk cap (buf.set 0 0) 0 [] :=
  ⟨rfl, by simp, by simp [List.getD, show 0 < buf.length by omega], h0, by simpa using hc⟩

end Cat
