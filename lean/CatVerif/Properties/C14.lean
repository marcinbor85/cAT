/-
  C14 — HOLD suspends the command until released, then answers exactly once.

  Proved for the model of the current source, for every descriptor, every history of API
  operations from `cat_init` with arbitrary callback answers, under the one restriction of
  DESIGN.md 2.3 that handlers run for unsolicited events do not answer HOLD (`OpOk`):
  * `C14_flag_iff_hold`: `hold_state_flag` is set exactly when the command machine is in HOLD, hence
    `cat_is_hold` reports HOLD exactly during the suspension (`C14_is_hold`);
  * `C14_suspended`: while held and not released, a `cat_service` step of the command machine
    changes nothing at all: no input byte is read, no result code started, no output;
  * `C14_events_continue`: the unsolicited machine is never blocked by a held command;
  * `C14_release_once`: once a release is requested, the next step leaves HOLD, clears the flag and
    starts exactly one result code whose polarity is that of the latest request;
  * `C14_spurious` / `C14_spurious_api`: a release request outside a hold returns ERROR_NOT_HOLD and
    changes nothing; `C14_enter_clears`: entering HOLD discards any stale request.
-/
import CatVerif.Proofs.Hold
namespace Cat
open St

/-- Along every history (event handlers not answering HOLD) the hold flag is set exactly when the
command machine sits in HOLD. -/
theorem C14_flag_iff_hold (D : Desc) (buf ubuf : List Byte) (mem : List (List Byte)) (ops : List Op)
    (hok : ∀ op ∈ ops, OpOk op) :
    let w := (runOps ⟨D, init D buf ubuf mem⟩ ops).1
    (w.s.holdFlag = true ↔ w.s.state = .hold) :=
  runOps_holdCpl D buf ubuf mem ops hok

/-- `cat_is_hold` (no mutex, or the mutex calls succeeding) answers HOLD iff the flag is set. -/
theorem C14_is_hold (D : Desc) (s : St) : (catIsHold D s 0 0).2 = (if s.holdFlag then Gen.CAT_STATUS_HOLD else Gen.CAT_STATUS_OK) := by
  unfold catIsHold withMutex isHoldBody Gen.is_hold
  cases h : s.holdFlag <;> simp <;> split <;> simp [h]

/-- While a command is held and no release has been requested, a step of the command machine is the
identity: nothing is read, nothing acknowledged, nothing written. -/
theorem C14_suspended (D : Desc) (s : St) (i : SvcIn) (hs : s.state = .hold) (hr : s.holdExitStatus = 0) :
    (commandService D s i).1 = s := by
  simp [commandService, hs, processHoldState, hr]

/-- The unsolicited machine is not blocked by a held command: waiting to write, it proceeds. -/
theorem C14_events_continue (D : Desc) (s : St) (i : SvcIn) (hs : s.state = .hold) (hu : s.ustate = .flushWait) :
    (unsolicitedEventsService D s i).1.ustate = .flushWrite := by
  simp [unsolicitedEventsService, hu, unsolicitedProcessIoWriteWait, hs]

/-- After a release request the next step of the command machine leaves HOLD, clears the flag, and
starts exactly one result code: OK if the latest request said OK (status > 0), ERROR otherwise;
no input byte is read in that step. -/
theorem C14_release_once (D : Desc) (s : St) (i : SvcIn) (hs : s.state = .hold) (hr : s.holdExitStatus ≠ 0) :
    let s' := (commandService D s i).1
    s'.holdFlag = false ∧ s'.state = .flushWait ∧ s'.writeStateAfter = .reset ∧
    tr .ack s'.log = tr .ack s.log ++ [.ack (decide (s.holdExitStatus > 0))] ∧
    tr .rd s'.log = tr .rd s.log := by
  simp only [commandService, hs, processHoldState]
  have : (s.holdExitStatus == 0) = false := by simpa using hr
  simp only [this]
  by_cases hneg : s.holdExitStatus < 0
  · have : ¬ s.holdExitStatus > 0 := by omega
    simp [hneg, this, ackError_spec, cls]
  · have : s.holdExitStatus > 0 := by omega
    simp [hneg, this, ackOk_spec, cls]

/-- A release request outside a hold reports ERROR_NOT_HOLD and has no effect whatsoever. -/
theorem C14_spurious (s : St) (st : Int) (h : s.holdFlag = false) : holdExit s st = (s, Gen.CAT_STATUS_ERROR_NOT_HOLD) := by
  simp [holdExit, h]

theorem C14_spurious_api (D : Desc) (s : St) (st : Int) (h : s.holdFlag = false) (hm : D.hasMutex = false) :
    catHoldExit D s st 0 0 = (s, Gen.CAT_STATUS_ERROR_NOT_HOLD) := by
  simp [catHoldExit, withMutex, hm, holdExit, h]

/-- Inside a hold the request is recorded (latest wins) and nothing else changes. -/
theorem C14_request_recorded (s : St) (st : Int) (h : s.holdFlag = true) :
    holdExit s st = ({ s with holdExitStatus := if st = 0 then 1 else -1 }, Gen.CAT_STATUS_OK) := by
  simp [holdExit, h, Gen.CAT_STATUS_OK]
  split <;> simp_all

/-- Entering HOLD discards any earlier request. -/
theorem C14_enter_clears (s : St) : (enableHoldState s).holdExitStatus = 0 ∧ (enableHoldState s).holdFlag = true ∧ (enableHoldState s).state = .hold := by
  simp [enableHoldState]

/-- all four handler kinds enter HOLD through the generated tables on code 4 -/
theorem C14_all_kinds_hold : Gen.process_write_loop 4 = [.enableHold] ∧ Gen.process_run_loop 4 = [.enableHold] ∧
    Gen.process_read_loop 4 .cmd = [.enableHold] ∧ Gen.process_test_loop 4 .cmd = [.enableHold] := by
  decide

/-- non-vacuity: a held state with a pending OK release satisfies the hypotheses of `C14_release_once` -/
example : let s : St := { (default : St) with state := .hold, holdFlag := true, holdExitStatus := 1 }
    s.state = .hold ∧ s.holdExitStatus ≠ 0 ∧ (s.holdFlag = true ↔ s.state = .hold) := by decide

end Cat
