/-
  C04 — Numeric arguments are stored iff well-formed and in range, with exact value.

  All theorems are for argument texts of ANY length (induction over the digit list), every
  variable width, every byte value.  `field` is the text of one argument (no NUL, no comma),
  followed in the buffer by its terminator (`,` or NUL) and arbitrary further bytes.
  * `C04_uint_parser`, `C04_int_parser`, `C04_hex_parser`: each parser accepts exactly its grammar
    with a magnitude that fits 64 bits and returns exactly the mathematical value; anything else
    (empty field, sign only, stray byte, value beyond 64 bits — the F2 defect) is rejected;
  * `C04_uint_range`, `C04_int_range`: range validation is exactly `fitsU` / `fitsI`; unsupported widths reject;
  * `C04_uint_write`, `C04_hex_write`: parser + validation + store for a writable variable:
    stored iff grammar ∧ fits, stored bytes = little-endian encoding of the mathematical value,
    rest of the slot and all other slots untouched, text consumed exactly; otherwise variable
    storage is unchanged (the variable keeps its previous value) and the step reports failure —
    which `parse_write_args` turns into ERROR without reaching the write handler (`C04_reject_error`).
  Not proved here: the NUL check of the F3 repair is a line-level fact (correspondence + oracle).
-/
import CatVerif.Proofs.WriteNum
import CatVerif.Proofs.Step
namespace Cat
open St Spec

theorem C04_uint_parser (field rest : List Byte) (t : Byte) (ht : IsTerm t) (hb : ∀ b ∈ field, b < 256 ∧ ¬ IsTerm b) :
    (IsUIntText field ∧ decValue field ≤ U64MAX →
      parseUIntDec (field ++ t :: rest) 0 false 0 =
        { ret := if t = 44 then 1 else 0, val := decValue field, used := field.length + 1 }) ∧
    (¬ (IsUIntText field ∧ decValue field ≤ U64MAX) → (parseUIntDec (field ++ t :: rest) 0 false 0).ret = -1) :=
  parseUIntDec_spec field rest t ht hb

theorem C04_int_parser (field rest : List Byte) (t : Byte) (ht : IsTerm t) (hb : ∀ b ∈ field, b < 256 ∧ ¬ IsTerm b) :
    (IsIntText field ∧ decValue (intMag field) ≤ I64MAX →
      parseIntDec (field ++ t :: rest) 0 0 false 0 =
        { ret := if t = 44 then 1 else 0, val := decValue (intMag field), neg := intNeg field, used := field.length + 1 }) ∧
    (¬ (IsIntText field ∧ decValue (intMag field) ≤ I64MAX) → (parseIntDec (field ++ t :: rest) 0 0 false 0).ret = -1) :=
  parseIntDec_spec field rest t ht hb

theorem C04_hex_parser (field rest : List Byte) (t : Byte) (ht : IsTerm t) (hb : ∀ b ∈ field, b < 256 ∧ ¬ IsTerm b) :
    (IsHexText field ∧ hexValue (hexBody field) ≤ U64MAX →
      parseNumHex (field ++ t :: rest) 0 0 0 =
        { ret := if t = 44 then 1 else 0, val := hexValue (hexBody field), used := field.length + 1 }) ∧
    (¬ (IsHexText field ∧ hexValue (hexBody field) ≤ U64MAX) → (parseNumHex (field ++ t :: rest) 0 0 0).ret = -1) :=
  parseNumHex_spec field rest t ht hb

theorem C04_uint_range (s : St) (v : VarD) (val : Nat) (hacc : v.access ≠ .ro)
    (hslot : v.dataSize ≤ (s.slotGet v.slot).length) :
    (fitsU v.dataSize val →
      (validateUIntRange s v val).2 = true ∧
      (validateUIntRange s v val).1.slotGet v.slot = leBytes v.dataSize val ++ (s.slotGet v.slot).drop v.dataSize ∧
      (validateUIntRange s v val).1.writeSize = v.dataSize ∧ (validateUIntRange s v val).1.oob = s.oob ∧
      (∀ k, k ≠ v.slot → (validateUIntRange s v val).1.slotGet k = s.slotGet k)) ∧
    (¬ fitsU v.dataSize val → validateUIntRange s v val = (s, false)) :=
  validateUIntRange_spec s v val hacc hslot

theorem C04_int_range (s : St) (v : VarD) (neg : Bool) (mag : Nat) (hacc : v.access ≠ .ro)
    (hslot : v.dataSize ≤ (s.slotGet v.slot).length) :
    let val : Int := if neg then -(mag : Int) else mag
    (fitsI v.dataSize val →
      (validateIntRange s v neg mag).2 = true ∧
      (validateIntRange s v neg mag).1.slotGet v.slot =
        leBytes v.dataSize (ofSigned (8 * v.dataSize) val) ++ (s.slotGet v.slot).drop v.dataSize ∧
      (validateIntRange s v neg mag).1.writeSize = v.dataSize ∧ (validateIntRange s v neg mag).1.oob = s.oob ∧
      (∀ k, k ≠ v.slot → (validateIntRange s v neg mag).1.slotGet k = s.slotGet k)) ∧
    (¬ fitsI v.dataSize val → validateIntRange s v neg mag = (s, false)) :=
  validateIntRange_spec s v neg mag hacc hslot

theorem C04_uint_write (D : Desc) (s : St) (v : VarD) (field rest : List Byte) (t : Byte)
    (hty : v.type = .uintDec) (hacc : v.access ≠ .ro) (hslot : v.dataSize ≤ (s.slotGet v.slot).length)
    (htxt : region D s .cmd s.position = field ++ t :: rest) (ht : IsTerm t)
    (hb : ∀ b ∈ field, b < 256 ∧ ¬ IsTerm b) :
    (IsUIntText field ∧ fitsU v.dataSize (decValue field) →
      (parseVarValue D s v).2.2 = true ∧ (parseVarValue D s v).2.1 = (if t = 44 then 1 else 0) ∧
      (parseVarValue D s v).1.slotGet v.slot = leBytes v.dataSize (decValue field) ++ (s.slotGet v.slot).drop v.dataSize ∧
      (∀ k, k ≠ v.slot → (parseVarValue D s v).1.slotGet k = s.slotGet k) ∧
      (parseVarValue D s v).1.position = s.position + field.length + 1 ∧
      (parseVarValue D s v).1.writeSize = v.dataSize ∧ (parseVarValue D s v).1.oob = s.oob) ∧
    (¬ (IsUIntText field ∧ fitsU v.dataSize (decValue field)) →
      (parseVarValue D s v).2.2 = false ∧ (parseVarValue D s v).1.mem = s.mem) := by
  rw [parseVarValue_eq]
  simp only [hty, htxt]
  exact numStore_unsigned s v _ (IsUIntText field) (decValue field) field.length t hacc hslot
    (parseUIntDec_spec field rest t ht hb)

theorem C04_hex_write (D : Desc) (s : St) (v : VarD) (field rest : List Byte) (t : Byte)
    (hty : v.type = .numHex) (hacc : v.access ≠ .ro) (hslot : v.dataSize ≤ (s.slotGet v.slot).length)
    (htxt : region D s .cmd s.position = field ++ t :: rest) (ht : IsTerm t)
    (hb : ∀ b ∈ field, b < 256 ∧ ¬ IsTerm b) :
    (IsHexText field ∧ fitsU v.dataSize (hexValue (hexBody field)) →
      (parseVarValue D s v).2.2 = true ∧ (parseVarValue D s v).2.1 = (if t = 44 then 1 else 0) ∧
      (parseVarValue D s v).1.slotGet v.slot = leBytes v.dataSize (hexValue (hexBody field)) ++ (s.slotGet v.slot).drop v.dataSize ∧
      (∀ k, k ≠ v.slot → (parseVarValue D s v).1.slotGet k = s.slotGet k) ∧
      (parseVarValue D s v).1.position = s.position + field.length + 1 ∧
      (parseVarValue D s v).1.writeSize = v.dataSize ∧ (parseVarValue D s v).1.oob = s.oob) ∧
    (¬ (IsHexText field ∧ fitsU v.dataSize (hexValue (hexBody field))) →
      (parseVarValue D s v).2.2 = false ∧ (parseVarValue D s v).1.mem = s.mem) := by
  rw [parseVarValue_eq]
  simp only [hty, htxt]
  exact numStore_unsigned s v _ (IsHexText field) (hexValue (hexBody field)) field.length t hacc hslot
    (parseNumHex_spec field rest t ht hb)

/-- a rejected argument ends the command with ERROR: no variable callback, no write handler, the
machine goes straight to acknowledging ERROR -/
theorem C04_reject_error (D : Desc) (s : St) (i : SvcIn)
    (h : (parseVarValue D ((s.chkUb s.cmd.isSome).chkUb (decide (s.index < (D.cmdD s.cmd).varNum))) ((D.cmdD s.cmd).varAt s.index)).2.2 = false) :
    (parseWriteArgs D s i).1.state = .flushWait ∧ (parseWriteArgs D s i).1.writeStateAfter = .reset ∧
    tr .cbC (parseWriteArgs D s i).1.log = tr .cbC s.log := by
  unfold parseWriteArgs
  simp only [chkUb_ctl, h]
  simp [ackError_spec, cls]

/-- non-vacuity: "255" fits a one-byte unsigned variable and "256" does not -/
example : IsUIntText [50, 53, 53] ∧ fitsU 1 (decValue [50, 53, 53]) ∧ ¬ fitsU 1 (decValue [50, 53, 54]) := by
  exact ⟨⟨by simp, by decide⟩, ⟨Or.inl rfl, by decide⟩, fun h => absurd h.2 (by decide)⟩

end Cat
