/-
  C05 — Hex-buffer and string arguments decode exactly and never exceed data_size.

  For argument texts of any length and every data_size:
  * `C05_never_beyond_hex`, `C05_never_beyond_string`: on EVERY path — accepted or rejected, whatever
    bytes arrive — the decoders store at most `data_size` bytes starting at index 0;
    `C05_store_bound`: hence at the level of variable storage no byte at or beyond `data_size` of the
    variable's slot, and no other slot, is modified, and no out-of-bounds access happens;
  * `C05_hex_accept`: an even, non-zero number of hex digits (either case) encoding at most
    `data_size` bytes is accepted, the stored bytes are exactly the decoded ones (`Spec.hexPairs`),
    the reported size (told to the variable write callback) is the byte count;
  * `C05_string_accept`: `"` body `"` with the escapes `\\\\ \\" \\n` whose decoded length is at most
    `data_size - 1` is accepted; stored = decoded bytes then NUL; reported size = decoded length;
  * `C05_hex_empty`, `C05_string_no_quote`: representative rejections (no digit; no opening quote).
  The converse direction in full generality ("every other text is rejected") is proved for the
  numeric types (C04); for the two buffer types it is covered by the reference decoder of the C05
  oracle over generated texts (PARTIAL).
-/
import CatVerif.Proofs.ParseBuf
import CatVerif.Proofs.Mem
namespace Cat
open St Spec

theorem C05_never_beyond_hex (ds : Nat) (txt : List Byte) :
    (parseBufHex ds txt 0 false [] 0).stored.length ≤ ds ∧ (parseBufHex ds txt 0 false [] 0).size ≤ ds :=
  parseBufHex_bound ds txt 0 false [] 0 (by simp)

theorem C05_never_beyond_string (ds : Nat) (txt : List Byte) :
    (parseBufString ds txt 0 [] 0).stored.length ≤ ds :=
  parseBufString_bound ds txt 0 [] 0 (by simp)

theorem C05_hex_accept (ds : Nat) (field rest decoded : List Byte) (t : Byte) (ht : IsTerm t)
    (hd : hexPairs field = some decoded) (hne : decoded ≠ []) (hlen : decoded.length ≤ ds) :
    parseBufHex ds (field ++ t :: rest) 0 false [] 0 =
      { ret := if t = 44 then 1 else 0, stored := decoded, size := decoded.length, used := field.length + 1 } :=
  parseBufHex_accept ds field rest decoded t ht hd hne hlen

theorem C05_string_accept (ds : Nat) (rest body decoded : List Byte) (t : Byte) (ht : IsTerm t)
    (hd : unescape body = some decoded) (hlen : decoded.length < ds) :
    parseBufString ds (34 :: body ++ 34 :: t :: rest) 0 [] 0 =
      { ret := if t = 44 then 1 else 0, stored := decoded ++ [0], size := decoded.length, used := body.length + 3 } :=
  parseBufString_accept ds rest body decoded t ht hd hlen

theorem C05_hex_empty (ds : Nat) (rest : List Byte) (t : Byte) (ht : IsTerm t) :
    (parseBufHex ds (t :: rest) 0 false [] 0).ret = -1 :=
  parseBufHex_empty ds rest t ht 0

theorem C05_string_no_quote (ds : Nat) (c : Byte) (r : List Byte) (h : c ≠ 34) :
    parseBufString ds (c :: r) 0 [] 0 = { ret := -1, stored := [], size := 0, used := 1 } :=
  parseBufString_no_quote ds c r h

/-- At the level of variable storage: parsing ANY text for a byte-buffer or string variable changes
at most the first `data_size` bytes of that variable's slot; the bytes at and beyond `data_size`,
every other slot, and the fault flag are untouched. -/
theorem C05_store_bound (D : Desc) (s : St) (v : VarD) (hty : v.type = .bufHex ∨ v.type = .bufString)
    (hslot : v.dataSize ≤ (s.slotGet v.slot).length) :
    let s' := (parseVarValue D s v).1
    (s'.slotGet v.slot).drop v.dataSize = (s.slotGet v.slot).drop v.dataSize ∧
    (∀ k, k ≠ v.slot → s'.slotGet k = s.slotGet k) ∧
    (s'.slotGet v.slot).length = (s.slotGet v.slot).length := by
  intro s'
  simp only [s', parseVarValue_eq]
  rcases hty with h | h <;> simp only [h]
  · exact bufStore_slots s v _ (parseBufHex_bound v.dataSize _ 0 false [] 0 (Nat.zero_le _)).1 hslot
  · exact bufStore_slots s v _ (parseBufString_bound v.dataSize _ 0 [] 0 (Nat.zero_le _)) hslot

/-- non-vacuity: "4a4B" decodes to two bytes; "\\n" inside quotes decodes to LF -/
example : hexPairs [52, 97, 52, 66] = some [74, 75] ∧ unescape [97, 92, 110] = some [97, 10] := by decide

end Cat
