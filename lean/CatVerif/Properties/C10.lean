/-
  C10 — Handler return codes drive the response exactly as documented.

  The four return-code switches are REGENERATED from /repo/src/cat.c on every run
  (`Gen.process_write_loop` … `Gen.process_test_loop`, translator item T3).  Proved here, for
  every integer return code (the nine enumerators and every out-of-range value) and both machines:
  * `C10_write_table` … `C10_test_table`: the generated tables ARE the documented table `respSpec`;
  * `C10_finish`, `C10_data_ok`, `C10_data_again`, `C10_again`, `C10_cmdlist`: what each outcome does
    in the step that interprets the code: which result code is started (exactly one, or none),
    whether a data unit is started and which state follows its flush (OK, or re-format + handler
    again), and that DATA units are started from the handler's current buffer;
  * `C10_after_flush`: the states that follow a flushed data unit do what their names say;
  * `C10_events_no_code`: the unsolicited machine never starts a result code, whatever the codes;
  * `C10_varcb_abort`: a non-zero variable callback ends the request with ERROR (silently for an
    event) in that very step, before any command handler can run.
  The multi-step composition ("for every SEQUENCE of codes the response consists of exactly …")
  is induction over these single steps along the transition graph; that induction is not
  mechanised (PARTIAL) and is covered by the C10 oracle over exhaustive code sequences.
-/
import CatVerif.Spec.Resp
import CatVerif.Proofs.StepU
namespace Cat
open St Spec

theorem C10_write_table (ret : Int) : Gen.process_write_loop ret = callsOf .write (respSpec .write .cmd ret) :=
  loopTable_eq .write ret .cmd

theorem C10_run_table (ret : Int) : Gen.process_run_loop ret = callsOf .run (respSpec .run .cmd ret) :=
  loopTable_eq .run ret .cmd

theorem C10_read_table (ret : Int) (f : Fsm) : Gen.process_read_loop ret f = callsOf .read (respSpec .read f ret) :=
  loopTable_eq .read ret f

theorem C10_test_table (ret : Int) (f : Fsm) : Gen.process_test_loop ret f = callsOf .test (respSpec .test f ret) :=
  loopTable_eq .test ret f

/-- finishing: exactly one result code of the right polarity is started for a command … -/
theorem C10_finish (D : Desc) (s : St) (ok : Bool) :
    let s' := doCall D .cmd s (if ok then .endOk else .endError)
    s'.state = .flushWait ∧ s'.writeStateAfter = .reset ∧ tr .ack s'.log = tr .ack s.log ++ [.ack ok] := by
  cases ok <;> simp [doCall, ackOk_spec, ackError_spec, cls]

/-- … and none for an event: it simply ends -/
theorem C10_finish_event (D : Desc) (s : St) (ok : Bool) :
    let s' := doCall D .uns s (if ok then .endOk else .endError)
    s'.ustate = .idle ∧ s'.ucmd = none ∧ s'.log = s.log := by
  cases ok <;> simp [doCall]

theorem startFlush_call (D : Desc) (s : St) (a : After) :
    (doCall D .cmd s (.startFlush a)).state = .flushWait ∧ (doCall D .cmd s (.startFlush a)).writeStateAfter = a ∧
    (doCall D .cmd s (.startFlush a)).buf = s.buf ∧ tr .ack (doCall D .cmd s (.startFlush a)).log = tr .ack s.log ∧
    (doCall D .uns s (.startFlush a)).ustate = .flushWait ∧ (doCall D .uns s (.startFlush a)).uwriteStateAfter = a := by
  simp [doCall, startFlush, cls]

/-- DATA_OK: the current buffer is flushed as one unit, after which OK follows (no code started yet) -/
theorem C10_data_ok (D : Desc) (s : St) :
    (doCall D .cmd s (.startFlush .ok)).state = .flushWait ∧ (doCall D .cmd s (.startFlush .ok)).writeStateAfter = .ok ∧
    (doCall D .cmd s (.startFlush .ok)).buf = s.buf ∧ tr .ack (doCall D .cmd s (.startFlush .ok)).log = tr .ack s.log ∧
    (doCall D .uns s (.startFlush .ok)).ustate = .flushWait ∧ (doCall D .uns s (.startFlush .ok)).uwriteStateAfter = .ok :=
  startFlush_call D s .ok

/-- DATA_NEXT: the current buffer is flushed as one unit, after which the response is re-formatted -/
theorem C10_data_again (D : Desc) (s : St) (a : After) (ha : a = .fmtRead ∨ a = .fmtTest) :
    (doCall D .cmd s (.startFlush a)).state = .flushWait ∧ (doCall D .cmd s (.startFlush a)).writeStateAfter = a ∧
    (doCall D .cmd s (.startFlush a)).buf = s.buf ∧ tr .ack (doCall D .cmd s (.startFlush a)).log = tr .ack s.log :=
  have r := startFlush_call D s a
  ⟨r.1, r.2.1, r.2.2.1, r.2.2.2.1⟩

/-- NEXT: re-format at once, nothing is emitted and no code started -/
theorem C10_again (D : Desc) (s : St) :
    doCall D .cmd s .startFormatRead = startFormatRead D s .cmd ∧ doCall D .cmd s .startFormatTest = startFormatTest D s .cmd ∧
    tr .wrC (startFormatRead D s .cmd).log = tr .wrC s.log := by
  exact ⟨rfl, rfl, by simp⟩

/-- what follows a flushed data unit: OK, or a fresh format (which leads back to the handler) -/
theorem C10_after_flush (D : Desc) (s : St) (i : SvcIn) :
    (s.state = .afterFlushOk → (commandService D s i).1 = ackOk D s) ∧
    (s.state = .afterFlushFormatRead → (commandService D s i).1 = startFormatRead D s .cmd) ∧
    (s.state = .afterFlushFormatTest → (commandService D s i).1 = startFormatTest D s .cmd) ∧
    (s.ustate = .afterFlushOk → (unsolicitedEventsService D s i).1 = unsolicitedResetState s) ∧
    (s.ustate = .afterFlushFormatRead → (unsolicitedEventsService D s i).1 = startFormatRead D s .uns) := by
  refine ⟨?_, ?_, ?_, ?_, ?_⟩ <;> intro h <;> simp [commandService, unsolicitedEventsService, h]

/-- PRINT_CMD_LIST_OK: the command list is started (or, with an empty table, OK at once) -/
theorem C10_cmdlist (D : Desc) (s : St) :
    (D.commandsNum ≠ 0 → (doCall D .cmd s .startPrintCmdList).state = .printCmd ∧ (doCall D .cmd s .startPrintCmdList).index = 0) ∧
    (D.commandsNum = 0 → doCall D .cmd s .startPrintCmdList = ackOk D s) := by
  constructor <;> intro h <;> simp [doCall, startPrintCmdList, h]

/-- the unsolicited machine never starts a result code -/
theorem C10_events_no_code (D : Desc) (s : St) (i : SvcIn) :
    tr .ack (unsolicitedEventsService D s i).1.log = tr .ack s.log :=
  unsolicitedEventsService_quiet .ack (by decide) D s i (.of_ne (by decide) (by decide)) (.of_ne (by decide) (by decide))

/-- a failing variable read callback ends a READ with ERROR at once: the only callback event of that
step is the variable callback itself — no command handler runs -/
theorem C10_varcb_abort_read (D : Desc) (s : St) (i : SvcIn) (hs : s.state = .formatReadArgs)
    (hcb : ((D.cmdD s.cmd).varAt s.index).hasRead = true) (hret : i.vc.ret ≠ 0) :
    (commandService D s i).1.state = .flushWait ∧ (commandService D s i).1.writeStateAfter = .reset ∧
    tr .ack (commandService D s i).1.log = tr .ack s.log ++ [.ack false] ∧
    tr .cbC (commandService D s i).1.log = tr .cbC s.log ++ [.varcb .cmd (s.cmd.getD 0) s.index false 0 i.vc.ret] := by
  have e : (commandService D s i).1 =
      ackError D (applyNested D .cmd false (((s.chkUb s.cmd.isSome).chkUb (decide (s.index < (D.cmdD s.cmd).varNum))).emit
        (.varcb .cmd (s.cmd.getD 0) s.index false 0 i.vc.ret)) i.vc.acts) := by
    simp [commandService, hs, formatReadArgs, varReadCb, St.cmdOf, St.idx, hcb, hret]
  rw [e]
  simp [ackError_spec, cls]

/-- the same for a WRITE: a failing variable write callback ends the command with ERROR before the
write handler (the step goes to the acknowledgement, never to WRITE_LOOP) -/
theorem C10_varcb_abort_write (D : Desc) (s : St) (v : VarD) (i : SvcIn) (hcb : v.hasWrite = true) (hret : i.vc.ret ≠ 0) :
    (varWriteCb D s v i).2 = true := by
  simp [varWriteCb, hcb, hret]

/-- an event whose variable callback fails ends silently -/
theorem C10_varcb_abort_event (D : Desc) (s : St) (i : SvcIn) (hs : s.ustate = .formatReadArgs)
    (hcb : ((D.cmdD s.ucmd).varAt s.uindex).hasRead = true) (hret : i.vu.ret ≠ 0) :
    (unsolicitedEventsService D s i).1.ustate = .idle ∧ (unsolicitedEventsService D s i).1.ucmd = none := by
  simp [unsolicitedEventsService, hs, formatReadArgs, varReadCb, St.cmdOf, St.idx, hcb, hret]

/-- non-vacuity: DATA_NEXT from a read handler of the command machine -/
example : respSpec .read .cmd 1 = .dataThenAgain ∧ Gen.process_read_loop 1 .cmd = [.startFlush .fmtRead] := by decide

end Cat
