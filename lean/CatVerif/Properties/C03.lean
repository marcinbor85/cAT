/-
  C03 — No out-of-bounds access or undefined behaviour for any input or descriptor.   PARTIAL.

  What the model can carry.  Every access the C code makes to the working buffer(s) or to a
  variable goes, in the model, through a checked accessor (`setB`/`getB`/`writeB`, `slotWrite`,
  `St.chk`, `St.chkUb`) which raises the ghost flag `oob` (outside the object) or `ub` (undefined
  operation) instead of performing it; the correspondence check compares these flags with what
  ASan/UBSan report for the compiled code on the same input, with buffers and variables
  allocated at exactly their declared sizes.  Proved here, for all inputs and descriptors:
  * `C03_geometry`: the two halves of a shared buffer are disjoint and inside the buffer;
  * `C03_store_confined`: a store faults exactly when its index is outside the acting machine's
    region, and then stores nothing;
  * `C03_cmd_machine_confined` / `C03_uns_machine_confined`: one whole step of the command machine
    leaves every byte outside the command region unchanged (the separate unsolicited buffer
    too); one whole step of the unsolicited machine leaves the command region unchanged —
    for every state, input byte, handler answer (HOLD included) and nested API call;
    `C03_service_confined`: hence `cat_service` as a whole changes the command region only through
    the command machine and the rest only through the unsolicited machine;
  * `C03_print_no_fault`: the three print primitives (the only writers of response text) never
    fault while the cursor is inside the region, keep it there, and refuse instead of
    truncating silently (C19_fits_or_fails);
  * `C03_ack_no_fault`: copying the result code is bounded by the command capacity;
  * `C03_args_no_fault`: collecting an argument byte never faults (C06_args_byte /
    C06_args_overflow decide stored-or-rejected);
  * `C03_var_store_exact`: a variable store of `n` bytes at `off` with `off + n ≤ size` changes
    exactly those bytes of exactly that variable and faults never; the decoders never present an
    index ≥ data_size (C05_never_beyond_hex, C05_never_beyond_string, C05_store_bound), the numeric
    stores write `data_size` bytes at 0 (C04).
  * `C03_no_undefined_operation` (`Proofs/NoUb.lean`, `Proofs/NoUbHist.lean`): along EVERY history of
    API calls from `cat_init` (any input, handler answers, nested API calls, flag changes; event
    handlers not answering HOLD) the `ub` flag stays false: the table cursor never leaves the table
    (`update_command`, `search_command`, command list), a command is selected wherever
    `self->cmd` / the event's command is dereferenced, the variable cursors stay inside the
    variable lists, and no print is attempted with the cursor beyond the capacity — for both
    machines.  The invariants behind it are `UbInv` / `UbInvU` (`C03_index_discipline`).
  * `C03_no_out_of_bounds` (`Proofs/NoOob.lean`, `Proofs/NoOobHist.lean`): along EVERY
    history of API calls from `cat_init` the `oob` flag stays false too — every store into a working
    buffer lands inside the acting machine's region, the argument parsers stop at the NUL that ends
    the argument text, the output cursor never passes the NUL that ends a response (nor the
    "\r\n" literal), every variable access stays inside `data_size` bytes of storage that is at
    least that long, the match-state lanes of all commands lie inside the command region and the
    ring indices inside the ring.  Hypotheses, each of them a real precondition of the C code
    (the real code was run at the excluded points, DESIGN.md 2.3): `DescOk` — the lanes of all
    commands fit the command region (the `assert` of `cat_init`, read for the command half), the
    command region holds `ERROR` and its terminator (6 bytes), no hex-buffer variable has
    `data_size = 0`; `MemOk` — each variable's storage really is `data_size` bytes long; the working
    buffer really is `buf_size` long; the ring capacity is positive; event handlers do not answer
    HOLD.  The invariants behind it: `OobF` (where each machine's text ends, by phase), `OobA` (the
    argument text), `RingInv`, `UbInv`/`UbInvU`, slot lengths (`LenE`).
  What remains outside Lean: nothing here is about the compiled code's actual accesses — that the
  C code performs the accesses the model performs (and no others) is what the
  sanitizer-instrumented correspondence run samples.  Hence PARTIAL.
-/
import CatVerif.Proofs.NoFault
import CatVerif.Proofs.NoUbHist
import CatVerif.Proofs.NoOobHist
import CatVerif.Properties.C06
namespace Cat
open St

theorem C03_geometry (D : Desc) (h : D.unsBuf.isSome = false) :
    D.unsBase = D.cmdCap ∧ D.cmdCap + D.unsCap ≤ D.bufSize := by
  refine ⟨unsBase_eq_cmdCap D h, ?_⟩
  simp only [Desc.cmdCap, Desc.unsCap, Gen.get_atcmd_buf_size, Gen.get_unsolicited_buf_size, h]
  simp
  omega

theorem C03_store_confined (D : Desc) (s : St) (f : Fsm) (i : Nat) (v : Byte) :
    (i < D.capOf f → SameFault s (setB D s f i v)) ∧
    (¬ i < D.capOf f → (setB D s f i v).oob = true ∧ (setB D s f i v).buf = s.buf ∧ (setB D s f i v).ubuf = s.ubuf) :=
  setB_fault D s f i v

theorem C03_cmd_machine_confined (D : Desc) (s : St) (i : SvcIn) :
    (commandService D s i).1.ubuf = s.ubuf ∧
    (commandService D s i).1.buf.drop D.cmdCap = s.buf.drop D.cmdCap ∧
    (commandService D s i).1.buf.length = s.buf.length :=
  commandService_keepsUR D s i

theorem C03_uns_machine_confined (D : Desc) (s : St) (i : SvcIn) :
    (unsolicitedEventsService D s i).1.buf.take D.cmdCap = s.buf.take D.cmdCap ∧
    (unsolicitedEventsService D s i).1.buf.length = s.buf.length ∧
    (unsolicitedEventsService D s i).1.ubuf.length = s.ubuf.length :=
  unsolicitedEventsService_keepsCR D s i

/-- `cat_service`'s body: the command region after the call is what the command machine made of
it, everything else is what the unsolicited machine made of it -/
theorem C03_service_confined (D : Desc) (s : St) (i : SvcIn) :
    let u := (unsolicitedEventsService D s i).1
    (serviceBody D s i).1.buf.drop D.cmdCap = u.buf.drop D.cmdCap ∧ (serviceBody D s i).1.ubuf = u.ubuf ∧
    u.buf.take D.cmdCap = s.buf.take D.cmdCap ∧ (serviceBody D s i).1.buf.length = s.buf.length := by
  have a := unsolicitedEventsService_keepsCR D s i
  have b := commandService_keepsUR D (unsolicitedEventsService D s i).1 i
  unfold serviceBody
  exact ⟨b.2.1, b.1, a.1, b.2.2.trans a.2.1⟩

theorem C03_print_no_fault (D : Desc) (s : St) (f : Fsm) (hp : s.pos f ≤ D.capOf f) :
    (∀ x, SameFault s (printN D s f x).1 ∧ (printN D s f x).1.pos f ≤ D.capOf f) ∧
    (∀ x, SameFault s (printFmt D s f x).1 ∧ (printFmt D s f x).1.pos f ≤ D.capOf f) ∧
    (∀ xs, SameFault s (printAll D s f xs).1 ∧ (printAll D s f xs).1.pos f ≤ D.capOf f) :=
  ⟨fun x => printN_nofault D s f x hp, fun x => printFmt_nofault D s f x hp, fun xs => printAll_nofault D f xs s hp⟩

theorem C03_ack_no_fault (D : Desc) (s : St) :
    SameFault s (ackOk D s) ∧ SameFault s (ackError D s) := by
  constructor
  · simpa [ackOk] using strncpyC_nofault D s [79, 75]
  · simpa [ackError] using strncpyC_nofault D s [69, 82, 82, 79, 82]

theorem C03_args_no_fault (D : Desc) (s : St) (i : SvcIn) (b : Byte)
    (hs : s.state = .parseCommandArgs) (hr : i.rd = some b) (h10 : b ≠ 10) (h13 : b ≠ 13)
    (hq : isTestMark D s b = false) (hc : s.cmd.isSome) :
    SameFault s (commandService D s i).1 := by
  obtain ⟨t, t1, t2, t3, t4, t5, t6, t7, t8, t9, e⟩ := parseCommandArgs_got D s i b hs hr
  have t9' := t9 hc
  rw [e]
  simp only [h10, h13, hq, beq_iff_eq, if_false, Bool.false_eq_true]
  split
  · simp [t8, t9']
  · rename_i hge
    have h1 : t.length < D.capOf .cmd := by show t.length < D.cmdCap; omega
    have a := (setB_fault D t .cmd t.length b).1 h1
    split
    · rename_i hlt
      have h2 : t.length + 1 < D.capOf .cmd := hlt
      have c := (setB_fault D ({ setB D t .cmd t.length b with length := t.length + 1 }) .cmd (t.length + 1) 0).1 h2
      simp_all
    · simp_all

theorem C03_var_store_exact (slot : Nat) (bs : List Byte) (s : St) (off : Nat)
    (h : off + bs.length ≤ (s.slotGet slot).length) :
    (slotWrite s slot off bs).slotGet slot = (s.slotGet slot).take off ++ bs ++ (s.slotGet slot).drop (off + bs.length) ∧
    (slotWrite s slot off bs).oob = s.oob ∧ (slotWrite s slot off bs).ub = s.ub ∧
    (∀ k, k ≠ slot → (slotWrite s slot off bs).slotGet k = s.slotGet k) ∧
    (slotWrite s slot off bs).mem.length = s.mem.length :=
  slotWrite_spec slot bs s off h

/-- **No undefined operation along any history.** -/
theorem C03_no_undefined_operation (D : Desc) (buf ubuf : List Byte) (mem : List (List Byte)) (ops : List Op)
    (hok : ∀ op ∈ ops, OpOk op) (hn : 0 < D.commandsNum) :
    (runOps ⟨D, init D buf ubuf mem⟩ ops).1.s.ub = false := by
  have := (runOps_noUb ops ⟨D, init D buf ubuf mem⟩ hok hn (init_ubAll D buf ubuf mem)).1
  rw [this]; rfl

/-- the index disciplines hold in every reachable state -/
theorem C03_index_discipline (D : Desc) (buf ubuf : List Byte) (mem : List (List Byte)) (ops : List Op)
    (hok : ∀ op ∈ ops, OpOk op) (hn : 0 < D.commandsNum) :
    UbAll (runOps ⟨D, init D buf ubuf mem⟩ ops).1.D (runOps ⟨D, init D buf ubuf mem⟩ ops).1.s :=
  (runOps_noUb ops ⟨D, init D buf ubuf mem⟩ hok hn (init_ubAll D buf ubuf mem)).2

/-- **No out-of-bounds access along any history**: whatever bytes arrive, whatever the handlers and
variable callbacks answer (event handlers not answering HOLD), whatever API calls are made from
inside callbacks or between service calls, and however the flags and variable contents are changed
in between, the model never touches a byte outside the region, variable, literal or ring it is
working on. -/
theorem C03_no_out_of_bounds (D : Desc) (buf ubuf : List Byte) (mem : List (List Byte)) (ops : List Op)
    (hok : ∀ op ∈ ops, OpOk op) (hn : 0 < D.commandsNum) (hc : 0 < D.cap) (hd : DescOk D) (hb : D.cmdCap ≤ buf.length)
    (hm : ∀ id, ∀ v ∈ (D.cmdD id).vars.getD [], v.dataSize ≤ (mem.getD v.slot []).length) :
    (runOps ⟨D, init D buf ubuf mem⟩ ops).1.s.oob = false := by
  have := (runOps_noOob ops ⟨D, init D buf ubuf mem⟩ hok (init_good D buf ubuf mem hn hc hd hb hm)).1
  rw [this]; rfl

/-- the invariants of the out-of-bounds proof hold in every reachable state: in particular every
response text and the argument text end in a NUL inside their region (`OobF`, `OobA`) -/
theorem C03_text_terminated (D : Desc) (buf ubuf : List Byte) (mem : List (List Byte)) (ops : List Op)
    (hok : ∀ op ∈ ops, OpOk op) (hn : 0 < D.commandsNum) (hc : 0 < D.cap) (hd : DescOk D) (hb : D.cmdCap ≤ buf.length)
    (hm : ∀ id, ∀ v ∈ (D.cmdD id).vars.getD [], v.dataSize ≤ (mem.getD v.slot []).length) :
    Good (runOps ⟨D, init D buf ubuf mem⟩ ops).1 :=
  (runOps_noOob ops ⟨D, init D buf ubuf mem⟩ hok (init_good D buf ubuf mem hn hc hd hb hm)).2

/-- the hypotheses are satisfiable: one command with an 8-bit and a hex-buffer variable, a shared
16-byte working buffer (8 + 8), ring capacity 1 -/
def exCmd : CmdD :=
  ⟨[43, 88], none, true, true, false, false,
   some [⟨none, .intDec, 0, 1, .rw, false, false⟩, ⟨none, .bufHex, 1, 2, .rw, false, false⟩], false, false, false, false⟩

def exDesc : Desc := ⟨[⟨none, [exCmd], false⟩], [], 16, none, 1, false⟩

theorem exDesc_cmdD : ∀ id, (exDesc.cmdD id).vars.getD [] = [] ∨ id = some 0 := by
  intro id
  cases id with
  | none => left; rfl
  | some k =>
    cases k with
    | zero => right; rfl
    | succ n =>
      left
      simp [Desc.cmdD, Desc.cmd?, exDesc, Desc.commandsNum]
      rfl

theorem exDesc_vars {id : Option Nat} {v : VarD} (hv : v ∈ (exDesc.cmdD id).vars.getD []) :
    v = ⟨none, .intDec, 0, 1, .rw, false, false⟩ ∨ v = ⟨none, .bufHex, 1, 2, .rw, false, false⟩ := by
  rcases exDesc_cmdD id with h | h
  · rw [h] at hv; simp at hv
  · subst h
    simpa [Desc.cmdD, Desc.cmd?, exDesc, exCmd, Desc.commandsNum, cmdByIndex] using hv

theorem exDesc_good : Good ⟨exDesc, init exDesc (List.replicate 16 0) [] [[0], [0, 0]]⟩ := by
  refine init_good exDesc _ _ _ (by decide) (by decide) ⟨by decide, by decide, fun id v hv => ?_⟩ (by decide) fun id v hv => ?_
  · rcases exDesc_vars hv with rfl | rfl <;> simp [VarOk]
  · rcases exDesc_vars hv with rfl | rfl <;> simp

example : Good ⟨exDesc, init exDesc (List.replicate 16 0) [] [[0], [0, 0]]⟩ := exDesc_good

end Cat
