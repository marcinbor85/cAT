/-
  C11 — Output is a sequence of whole lines; the two state machines never interleave.

  Theorems proved here (for the model of the current source, every descriptor, every operation
  history of any length, any callback answers, any io readiness):
  * `C11_flush_exclusive`: the two machines are never both in FLUSH_IO_WRITE — the state in which,
    and only in which, a machine calls `io->write`.
  * `C11_writer`, `C11_one_writer_per_call`: only a machine in that state offers bytes.
  Units of the command machine (`Proofs/Units.lean`; `remC D s` = the bytes still to be accepted
  for the unit in progress, `outC log` = the bytes accepted, `FlushInv` = the text is terminated
  inside the command region and the cursor has not passed its end):
  * `C11_unit_start`, `C11_unit_start_raw`: a unit, when started, consists of the line break in
    force, the text in the command region, the line break again (a command-list line: the text);
    `C11_code_unit`: for a result code that is line break, `OK`/`ERROR`, line break;
  * `C11_unit_step`: every write step moves an accepted byte from the head of the remainder to the
    output and nothing else — refused bytes are offered again, nothing is skipped, repeated or
    truncated — and the machine leaves FLUSH_IO_WRITE exactly when the remainder is empty;
  * `C11_unit_wait`: waiting for the other machine changes nothing;
  * `C11_unit_undisturbed`: a step of the unsolicited machine neither changes the remainder (it
    cannot store into the command region, C03) nor emits a byte of the command machine;
  * `C11_service_unit`: hence over a whole `cat_service` body, accepted bytes ++ remainder is
    invariant while the command machine is sending a unit.
  * `C11_command_units` (`Proofs/UnitsHist.lean`): **over any history from `cat_init`** everything the
    command machine has had accepted by `io->write`, followed by what remains of the unit in
    progress, is a concatenation of whole units — line break ++ text without NUL ++ line break, or
    the bare text of a command-list line; `C11_command_units_whole`: whenever the command machine is
    not in the middle of a unit, its accepted output is exactly a concatenation of whole units.
    Nothing lost, duplicated or truncated, no foreign byte in between (bytes of the unsolicited
    machine are a different event class: `C11_writer`).  The hypothesis `FlushInv` of the step
    theorems is discharged at every unit start by the text-termination invariants of the
    out-of-bounds proof (`OobF`, C03), so the descriptor hypotheses are those of
    `C03_no_out_of_bounds`.
  * `C11_unsolicited_units` (vocabulary: `Proofs/UnitsU.lean`): the same over any history for the unsolicited machine.
    Its closing line break is chosen only when the text has been sent, from the `cr_flag` in force at
    that moment (which the command machine may have changed meanwhile), so the statement has two
    cases: while a unit's closing line break is not yet chosen, accepted bytes ++ remainder =
    whole units ++ (opening line break ++ text of the current unit); otherwise accepted bytes ++
    remainder = whole units.  `C11_unsolicited_units_whole`: whenever the unsolicited machine is not
    inside a unit its accepted output is exactly a concatenation of whole units (each: line break,
    text without NUL, line break — the two line breaks of one unit may differ).
  * `C11_merged_units` (`Proofs/UnitsM.lean`): **the merged byte stream** — everything `io->write`
    has accepted from either machine, in the order of the calls, over any history — is a
    concatenation of whole units followed by the part already sent of the one unit in progress:
    `MInv`: if the command machine is sending, merged ++ its remainder = whole units; if the
    unsolicited machine is sending, the same with its remainder (two cases as above); if neither is
    sending, merged = whole units exactly (`C11_merged_units_whole`).  A unit waiting for the output
    in FLUSH_IO_WRITE_WAIT is not counted until it starts.  Units of the two machines never
    interleave: no byte of one machine lies between two bytes of a unit of the other.
-/
import CatVerif.Proofs.UnitsM
namespace Cat
open St

/-- Along every history of API operations from `cat_init`, with arbitrary callback answers, the
command machine and the unsolicited machine are never simultaneously in FLUSH_IO_WRITE. -/
theorem C11_flush_exclusive (D : Desc) (buf ubuf : List Byte) (mem : List (List Byte)) (ops : List Op) :
    let w := (runOps ⟨D, init D buf ubuf mem⟩ ops).1
    ¬ (w.s.state = .flushWrite ∧ w.s.ustate = .flushWrite) := by
  exact runOps_inv (I := fun w => FlushExcl w.s) (ok := fun _ => True) (fun w op _ h => apply_flushExcl w op h) ops
    ⟨D, init D buf ubuf mem⟩ (fun _ _ => trivial) (by simp [FlushExcl, init])

/-- Only a machine in FLUSH_IO_WRITE offers bytes to `io->write`: a `cat_service` call appends
`wr` events of the command machine only if that machine is in FLUSH_IO_WRITE when its step
starts, and likewise for the unsolicited machine. -/
theorem C11_writer (D : Desc) (s : St) (i : SvcIn) :
    (s.ustate ≠ .flushWrite → tr .wrU (serviceBody D s i).1.log = tr .wrU s.log) ∧
    ((unsolicitedEventsService D s i).1.state ≠ .flushWrite → tr .wrC (serviceBody D s i).1.log = tr .wrC s.log) :=
  ⟨fun h => (commandService_quiet .wrU (by decide) D _ i (.of_ne (by decide) (by decide)) (.of_ne (by decide) (by decide))).trans
      (unsolicitedEventsService_no_write D s i h),
   fun h => (commandService_no_write D _ i h).trans
      (unsolicitedEventsService_quiet .wrC (by decide) D s i (.of_ne (by decide) (by decide)) (.of_ne (by decide) (by decide)))⟩

/-- In one `cat_service` call at most one of the two machines writes output: given the
exclusion invariant (which holds in every reachable state, `C11_flush_exclusive`), either the
command machine's or the unsolicited machine's `wr` events are unchanged by the call. -/
theorem C11_one_writer_per_call (D : Desc) (s : St) (i : SvcIn)
    (h : ¬ (s.state = .flushWrite ∧ s.ustate = .flushWrite)) :
    tr .wrC (serviceBody D s i).1.log = tr .wrC s.log ∨ tr .wrU (serviceBody D s i).1.log = tr .wrU s.log := by
  have w := C11_writer D s i
  by_cases hu : s.ustate = .flushWrite
  · left
    apply w.2
    rw [uns_flush_keeps_state D s i (Or.inr hu)]
    intro hc; exact h ⟨hc, hu⟩
  · right; exact w.1 hu

/-- non-vacuity: a reachable state in which the unsolicited machine is writing while the command
machine waits for it -/
example : ∃ s : St, s.ustate = .flushWrite ∧ s.state = .flushWait ∧ ¬ (s.state = .flushWrite ∧ s.ustate = .flushWrite) :=
  ⟨{ (default : St) with ustate := .flushWrite, state := .flushWait }, rfl, rfl, by simp⟩

theorem C11_unit_start (D : Desc) (s : St) (a : After) :
    remC D (startFlush s .cmd a) = nlStr s ++ payloadC D s ++ nlStr s ∧
    ((payloadC D s).length < (region D s .cmd 0).length → FlushInv D (startFlush s .cmd a)) :=
  ⟨by simp [remC, startFlush, St.emit, payloadC, region, nlStr_eq, nlOff, nlBytes],
   fun h => ⟨h, fun _ => Nat.zero_le _, .inl ⟨rfl, nlOff s, rfl⟩⟩⟩

theorem C11_unit_start_raw (D : Desc) (s : St) (a : After) :
    remC D (startFlushRaw s a) = payloadC D s ∧
    ((payloadC D s).length < (region D s .cmd 0).length → FlushInv D (startFlushRaw s a)) :=
  ⟨by simp [remC, startFlushRaw, St.emit, payloadC, region], fun h => ⟨h, fun _ => Nat.zero_le _, .inr (.inr rfl)⟩⟩

theorem C11_code_unit (D : Desc) (s : St) (h6 : 6 ≤ D.cmdCap) (hb : D.cmdCap ≤ s.buf.length) :
    remC D (ackOk D s) = nlStr s ++ [79, 75] ++ nlStr s ∧ FlushInv D (ackOk D s) ∧
    remC D (ackError D s) = nlStr s ++ [69, 82, 82, 79, 82] ++ nlStr s ∧ FlushInv D (ackError D s) := by
  have key : ∀ (str : List Byte) (e : Ev), (∀ b ∈ str, b ≠ 0) → str.length < D.cmdCap →
      remC D (startFlush ((strncpyC D s str).emit e) .cmd .reset) = nlStr s ++ str ++ nlStr s ∧
      FlushInv D (startFlush ((strncpyC D s str).emit e) .cmd .reset) := fun str e hz hl => by
    have p := strncpyC_payload D s str hz hl hb
    have u := C11_unit_start D ((strncpyC D s str).emit e) .reset
    have nl : nlStr ((strncpyC D s str).emit e) = nlStr s := by simp [nlStr]
    have pe : payloadC D ((strncpyC D s str).emit e) = payloadC D (strncpyC D s str) := rfl
    exact ⟨by rw [u.1, nl, pe, p.1], u.2 p.2⟩
  have ok := key [79, 75] (.ack true) (by decide) (by simp; omega)
  have er := key [69, 82, 82, 79, 82] (.ack false) (by decide) (by simp; omega)
  exact ⟨ok.1, ok.2, er.1, er.2⟩

/-- the command machine's reading of `ioWrite_acct`: its closing line break is in `remC` from the start, so nothing joins
the remainder on the way -/
theorem C11_unit_step (D : Desc) (s : St) (i : SvcIn) (hs : s.state = .flushWrite) (hv : FlushInv D s) :
    let s' := (commandService D s i).1
    outC s'.log ++ remC D s' = outC s.log ++ remC D s ∧ s'.buf = s.buf ∧
    (s'.state = .flushWrite → FlushInv D s') ∧
    (s'.state ≠ .flushWrite → remC D s = [] ∧ s'.state = s.writeStateAfter.toC) := by
  obtain ⟨extra, hx, hacc, hinv, hleave⟩ := ioWrite_acct (D := D) (f := .cmd) i hs (flushInv_iff.1 hv)
  have lv := ioWrite_leaves (D := D) (f := .cmd) i hs
  have sb := ioWrite_buf D s .cmd i
  have c := remC_remF (D := D) (s := s) (fun _ => flushInv_iff.1 hv)
  rw [show commandService D s i = ioWrite D s .cmd i from machineStep_writing (f := .cmd) i hs]
  dsimp only
  generalize (ioWrite D s .cmd i).1 = s' at *
  have c' := remC_remF (D := D) (s := s') (fun h => hinv (Classical.byContradiction fun n => (hleave n).2.2 h))
  have hn : nlStr s' = nlStr s := by simp only [nlStr, sb.2]
  rw [outC_eq]
  refine ⟨?_, sb.1.1, fun h => flushInv_iff.2 (hinv h), fun h => ?_⟩
  · rcases hx with ⟨hx, hiff⟩ | ⟨hx, o, no'⟩
    · by_cases o : OpenF s .cmd
      · rw [c.1 o, c'.1 (hiff.2 o), ← List.append_assoc, hacc, hx, hn]; simp
      · rw [c.2 o, c'.2 (fun o' => o (hiff.1 o')), hacc, hx]; simp
    · rw [c.1 o, c'.2 no', hacc, hx]; simp
  · obtain ⟨ra, h2, _⟩ := hleave h
    exact ⟨by rw [c.2 (fun o => by have := o.2; omega), ra], by rw [(lv h).2.2]; simp [St.leave]⟩

theorem C11_unit_wait (D : Desc) (s : St) (i : SvcIn) (hs : s.state = .flushWait) :
    let s' := (commandService D s i).1
    remC D s' = remC D s ∧ s'.log = s.log ∧ (FlushInv D s → FlushInv D s') ∧
    (s'.state = .flushWait ∨ s'.state = .flushWrite) := by
  rw [show commandService D s i = ioWait s .cmd from machineStep_waiting (f := .cmd) i hs]
  obtain ⟨us, hl⟩ := ioWait_same D (f := .cmd) hs
  exact ⟨remC_congr us (by simp), hl, fun hv => flushInv_iff.2 (us.inv (flushInv_iff.1 hv)),
    (ph_flush_iff _ .cmd).1 (us.ph.trans (waiting_ph hs))⟩

theorem C11_unit_undisturbed (D : Desc) (s : St) (i : SvcIn) (hu : i.hu.ret ≠ 4) :
    remC D (unsolicitedEventsService D s i).1 = remC D s ∧
    (FlushInv D s → FlushInv D (unsolicitedEventsService D s i).1) ∧
    outC (unsolicitedEventsService D s i).1.log = outC s.log := by
  obtain ⟨us, uo, _, _⟩ := machineStep_other D s .cmd i hu
  have k := unsolicitedEventsService_keepsC D s i hu
  simp only [KeepsCH, SameC'] at k
  exact ⟨remC_congr us (by simp [k]), fun hv => flushInv_iff.2 (us.inv (flushInv_iff.1 hv)), by rw [outC_eq]; exact uo⟩

theorem C11_service_unit (D : Desc) (s : St) (i : SvcIn) (hu : i.hu.ret ≠ 4)
    (hs : s.state = .flushWrite ∨ s.state = .flushWait) (hv : FlushInv D s) :
    outC (serviceBody D s i).1.log ++ remC D (serviceBody D s i).1 = outC s.log ++ remC D s := by
  obtain ⟨ur, ui, uo⟩ := C11_unit_undisturbed D s i hu
  have ot : OtherStep D .cmd s (unsolicitedEventsService D s i).1 := machineStep_other D s .cmd i hu
  show outC (commandService D (unsolicitedEventsService D s i).1 i).1.log ++
    remC D (commandService D (unsolicitedEventsService D s i).1 i).1 = _
  rw [← uo, ← ur]
  rcases hs with hs | hs
  · exact (C11_unit_step D _ i (ot.writing.2 hs) (ui hv)).1
  · have w := C11_unit_wait D _ i (ot.waiting.2 hs)
    rw [w.1, w.2.1]

/-- non-vacuity: a state in the middle of `\r\nOK\r\n` with `\r\nO` already accepted -/
example : ∃ (D : Desc) (s : St), s.state = .flushWrite ∧ FlushInv D s ∧ remC D s = [75, 13, 10] := by
  refine ⟨{ (default : Desc) with bufSize := 8, unsBuf := some 0 },
    { (default : St) with state := .flushWrite, writeState := 1, writeSrc := .main, position := 1, crFlag := true,
                          buf := [79, 75, 0, 0, 0, 0, 0, 0] }, rfl, ⟨by decide, by decide, Or.inr (Or.inl ⟨rfl, rfl⟩)⟩, by decide⟩

/-- no unit being in progress, the state `cat_init` leaves behind satisfies the unit accounting of either machine -/
theorem C11_init_units (D : Desc) (buf ubuf : List Byte) (mem : List (List Byte)) (f : Fsm) :
    FlushOkF D (init D buf ubuf mem) f ∧ TraceF D [] (init D buf ubuf mem) f ∧ PendF D (init D buf ubuf mem) f := by
  have hp : (init D buf ubuf mem).ph f ≠ .flush := by cases f <;> simp [init, St.ph, CState.ph, UState.ph]
  exact ⟨fun h => absurd h hp, (traceF_idle hp).2 ⟨[], by simp, rfl⟩, fun w => absurd (waiting_ph w) hp⟩

/-- **The command machine's output is a sequence of whole units**, over any history. -/
theorem C11_command_units (D : Desc) (buf ubuf : List Byte) (mem : List (List Byte)) (ops : List Op)
    (hok : ∀ op ∈ ops, OpOk op) (hn : 0 < D.commandsNum) (hc : 0 < D.cap) (hd : DescOk D) (hb : D.cmdCap ≤ buf.length)
    (hm : ∀ id, ∀ v ∈ (D.cmdD id).vars.getD [], v.dataSize ≤ (mem.getD v.slot []).length) :
    let r := runOps ⟨D, init D buf ubuf mem⟩ ops
    ∃ us : List (List Byte), (∀ u ∈ us, UnitShape u) ∧ outAllC r.2 ++ remC r.1.D r.1.s = us.flatten := by
  have i0 := C11_init_units D buf ubuf mem .cmd
  obtain ⟨_, fo, t⟩ := (acctF .cmd).history ops ⟨D, init D buf ubuf mem⟩ [] hok (init_good D buf ubuf mem hn hc hd hb hm)
    ⟨hb, i0.1, i0.2.1⟩
  simpa [outAllC, outC_eq, Whole] using t.cmd fo

/-- whenever the command machine is not sending a unit, what it has emitted so far is exactly a
concatenation of whole units -/
theorem C11_command_units_whole (D : Desc) (buf ubuf : List Byte) (mem : List (List Byte)) (ops : List Op)
    (hok : ∀ op ∈ ops, OpOk op) (hn : 0 < D.commandsNum) (hc : 0 < D.cap) (hd : DescOk D) (hb : D.cmdCap ≤ buf.length)
    (hm : ∀ id, ∀ v ∈ (D.cmdD id).vars.getD [], v.dataSize ≤ (mem.getD v.slot []).length)
    (hq : ¬ ((runOps ⟨D, init D buf ubuf mem⟩ ops).1.s.state = .flushWait ∨ (runOps ⟨D, init D buf ubuf mem⟩ ops).1.s.state = .flushWrite)) :
    ∃ us : List (List Byte), (∀ u ∈ us, UnitShape u) ∧ outAllC (runOps ⟨D, init D buf ubuf mem⟩ ops).2 = us.flatten := by
  obtain ⟨us, h1, h2⟩ := C11_command_units D buf ubuf mem ops hok hn hc hd hb hm
  rw [remC_idle _ _ hq, List.append_nil] at h2
  exact ⟨us, h1, h2⟩

/-- **The unsolicited machine's output is a sequence of whole units**, over any history (the buffer
handed to the unsolicited machine really being as long as declared). -/
theorem C11_unsolicited_units (D : Desc) (buf ubuf : List Byte) (mem : List (List Byte)) (ops : List Op)
    (hok : ∀ op ∈ ops, OpOk op) (hn : 0 < D.commandsNum) (hc : 0 < D.cap) (hd : DescOk D) (hb : D.cmdCap ≤ buf.length)
    (hm : ∀ id, ∀ v ∈ (D.cmdD id).vars.getD [], v.dataSize ≤ (mem.getD v.slot []).length)
    (hbu : if D.unsBuf.isSome then D.unsCap ≤ ubuf.length else D.unsBase + D.unsCap ≤ buf.length) :
    TraceU (runOps ⟨D, init D buf ubuf mem⟩ ops).1.D (outAllU (runOps ⟨D, init D buf ubuf mem⟩ ops).2)
      (runOps ⟨D, init D buf ubuf mem⟩ ops).1.s := by
  have i0 := C11_init_units D buf ubuf mem .uns
  obtain ⟨_, fo, t⟩ := (acctF .uns).history ops ⟨D, init D buf ubuf mem⟩ [] hok (init_good D buf ubuf mem hn hc hd hb hm)
    ⟨by simpa [BufLen, BufOkU, init] using hbu, i0.1, i0.2.1⟩
  simpa [outAllU, outU_eq] using t.uns fo

/-- whenever the unsolicited machine is not sending a unit, what it has emitted so far is exactly a
concatenation of whole units -/
theorem C11_unsolicited_units_whole (D : Desc) (buf ubuf : List Byte) (mem : List (List Byte)) (ops : List Op)
    (hok : ∀ op ∈ ops, OpOk op) (hn : 0 < D.commandsNum) (hc : 0 < D.cap) (hd : DescOk D) (hb : D.cmdCap ≤ buf.length)
    (hm : ∀ id, ∀ v ∈ (D.cmdD id).vars.getD [], v.dataSize ≤ (mem.getD v.slot []).length)
    (hbu : if D.unsBuf.isSome then D.unsCap ≤ ubuf.length else D.unsBase + D.unsCap ≤ buf.length)
    (hq : ¬ ((runOps ⟨D, init D buf ubuf mem⟩ ops).1.s.ustate = .flushWait ∨ (runOps ⟨D, init D buf ubuf mem⟩ ops).1.s.ustate = .flushWrite)) :
    ∃ us : List (List Byte), (∀ u ∈ us, UnitShape u) ∧ outAllU (runOps ⟨D, init D buf ubuf mem⟩ ops).2 = us.flatten := by
  have t := C11_unsolicited_units D buf ubuf mem ops hok hn hc hd hb hm hbu
  obtain ⟨us, h1, h2⟩ := t.closed (fun o => hq o.1)
  rw [remU, if_neg hq, List.append_nil] at h2
  exact ⟨us, h1, h2⟩

/-- **The merged output of both machines is a sequence of whole units**, over any history: `MInv`
with everything accepted so far from either machine, in order. -/
theorem C11_merged_units (D : Desc) (buf ubuf : List Byte) (mem : List (List Byte)) (ops : List Op)
    (hok : ∀ op ∈ ops, OpOk op) (hn : 0 < D.commandsNum) (hc : 0 < D.cap) (hd : DescOk D) (hb : D.cmdCap ≤ buf.length)
    (hm : ∀ id, ∀ v ∈ (D.cmdD id).vars.getD [], v.dataSize ≤ (mem.getD v.slot []).length)
    (hbu : if D.unsBuf.isSome then D.unsCap ≤ ubuf.length else D.unsBase + D.unsCap ≤ buf.length) :
    MInv (runOps ⟨D, init D buf ubuf mem⟩ ops).1.D (outAllM (runOps ⟨D, init D buf ubuf mem⟩ ops).2)
      (runOps ⟨D, init D buf ubuf mem⟩ ops).1.s := by
  have i0 := C11_init_units D buf ubuf mem
  have m0 : MergedInv D [] (init D buf ubuf mem) :=
    ⟨by simpa [BufLen, BufOkU, init] using hbu, fun f => (i0 f).1, by simp [FlushExcl, init],
     fun f h => by cases f <;> simp [St.writing, init] at h, fun _ => ⟨[], by simp, rfl⟩, fun f => (i0 f).2.2⟩
  simpa using (runOps_merged ops ⟨D, init D buf ubuf mem⟩ [] hok (init_good D buf ubuf mem hn hc hd hb hm) m0).minv

/-- whenever neither machine is sending, everything emitted so far — by both machines together, in
order — is exactly a concatenation of whole units -/
theorem C11_merged_units_whole (D : Desc) (buf ubuf : List Byte) (mem : List (List Byte)) (ops : List Op)
    (hok : ∀ op ∈ ops, OpOk op) (hn : 0 < D.commandsNum) (hc : 0 < D.cap) (hd : DescOk D) (hb : D.cmdCap ≤ buf.length)
    (hm : ∀ id, ∀ v ∈ (D.cmdD id).vars.getD [], v.dataSize ≤ (mem.getD v.slot []).length)
    (hbu : if D.unsBuf.isSome then D.unsCap ≤ ubuf.length else D.unsBase + D.unsCap ≤ buf.length)
    (hq : (runOps ⟨D, init D buf ubuf mem⟩ ops).1.s.state ≠ .flushWrite)
    (hqu : (runOps ⟨D, init D buf ubuf mem⟩ ops).1.s.ustate ≠ .flushWrite) :
    ∃ us : List (List Byte), (∀ u ∈ us, UnitShape u) ∧ outAllM (runOps ⟨D, init D buf ubuf mem⟩ ops).2 = us.flatten :=
  (C11_merged_units D buf ubuf mem ops hok hn hc hd hb hm hbu).idle hq hqu

/-- while the command machine is sending: merged output ++ the rest of its unit = whole units -/
theorem C11_merged_units_cmd (D : Desc) (buf ubuf : List Byte) (mem : List (List Byte)) (ops : List Op)
    (hok : ∀ op ∈ ops, OpOk op) (hn : 0 < D.commandsNum) (hc : 0 < D.cap) (hd : DescOk D) (hb : D.cmdCap ≤ buf.length)
    (hm : ∀ id, ∀ v ∈ (D.cmdD id).vars.getD [], v.dataSize ≤ (mem.getD v.slot []).length)
    (hbu : if D.unsBuf.isSome then D.unsCap ≤ ubuf.length else D.unsBase + D.unsCap ≤ buf.length)
    (hq : (runOps ⟨D, init D buf ubuf mem⟩ ops).1.s.state = .flushWrite) :
    ∃ us : List (List Byte), (∀ u ∈ us, UnitShape u) ∧
      outAllM (runOps ⟨D, init D buf ubuf mem⟩ ops).2 ++
        remC (runOps ⟨D, init D buf ubuf mem⟩ ops).1.D (runOps ⟨D, init D buf ubuf mem⟩ ops).1.s = us.flatten :=
  (C11_merged_units D buf ubuf mem ops hok hn hc hd hb hm hbu).cw hq

/-- non-vacuity: shapes of real units -/
example : UnitShape [13, 10, 79, 75, 13, 10] ∧ UnitShape [10, 43, 88, 61, 53, 10] ∧ UnitShape [10, 65, 84, 43, 88, 10] :=
  ⟨⟨[13, 10], [13, 10], [79, 75], Or.inr rfl, Or.inr rfl, by decide, Or.inl rfl⟩,
   ⟨[10], [10], [43, 88, 61, 53], Or.inl rfl, Or.inl rfl, by decide, Or.inl rfl⟩,
   ⟨[10], [10], [10, 65, 84, 43, 88, 10], Or.inl rfl, Or.inl rfl, by decide, Or.inr rfl⟩⟩

end Cat
