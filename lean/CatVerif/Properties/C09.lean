/-
  C09 — Disabled, test-only or handler-less commands are never executed.

  The enable flags live in the descriptor (`Desc`), which the `setCmdDisable` / `setCmdOnlyTest` /
  `setGroupDisable` operations replace between calls; every theorem below holds for the flags in
  force when the step is taken, hence for every history of flag changes.
  * `C09_invisible`: for a disabled command, or one in a disabled group, `get_cmd_state` answers
    NOT_MATCH whatever the match bits say — this is the only way the parser looks at a table entry;
  * `C09_update_skips`: the per-character update step leaves such an entry completely alone (it can
    never become a full match, never raise the implicit-write flag);
  * `C09_search_skips`: the search step neither selects it nor counts it as a partial match, so it
    cannot make another abbreviation ambiguous; `C09_selected_enabled`: whatever command the search
    step newly selects is enabled;
  * `C09_only_test_run`, `C09_only_test_read`, `C09_only_test_write`: a test-only command answers RUN, READ
    and WRITE with ERROR, invoking nothing;
  * `C09_no_run_handler`: RUN on a command without run handler is answered with ERROR (READ/WRITE
    without handler or accessible variable: `C08_read_gate`, `C08_write_gate`).
-/
import CatVerif.Proofs.Resolve
namespace Cat
open St

theorem C09_invisible (D : Desc) (s : St) (k : Nat) (h : disabledByIndex D.groups k = true) :
    getCmdState D s k = (s, 0) := by
  simp [getCmdState, h]

theorem C09_update_skips (D : Desc) (s : St) (h : disabledByIndex D.groups s.index = true) :
    (updateCommand D s).1.buf = s.buf ∧
    ((updateCommand D s).1.implicitWriteFlag = true → s.implicitWriteFlag = true) := by
  simp only [updateCommand, updateLane_disabled D (s.chkUb _) (by simpa using h)]
  exact ⟨by simp, fun hf => by simpa using updateAdvance_flag D _ hf⟩

/-- at a disabled entry the search step changes neither the selected command nor the partial count -/
theorem C09_search_skips (D : Desc) (s : St) (h : disabledByIndex D.groups s.index = true) :
    (searchCommand D s).1.cmd = s.cmd ∧ (searchCommand D s).1.partialCntr = s.partialCntr := by
  have ⟨r1, r2, _, _⟩ := searchCommand_regs D s
  simp [laneOf_disabled D s _ h] at r1 r2
  exact ⟨r1, r2⟩

/-- a command newly selected by the search step is an enabled one -/
theorem C09_selected_enabled (D : Desc) (s : St) (k : Nat)
    (h : (searchCommand D s).1.cmd = some k) (hn : s.cmd ≠ some k) :
    disabledByIndex D.groups k = false := by
  rcases searchCommand_cmd D s with e | ⟨e, h0⟩
  · exact absurd (e ▸ h) hn
  · rw [e] at h
    cases h
    cases hd : disabledByIndex D.groups s.index
    · rfl
    · exact absurd (laneOf_disabled D s _ hd) h0

theorem C09_only_test_run (D : Desc) (s : St) (ht : s.cmdType = .run) (ho : (D.cmdD s.cmd).onlyTest = true) :
    (commandFound D s).1.state = .flushWait ∧ tr .ack (commandFound D s).1.log = tr .ack s.log ++ [.ack false] ∧
    tr .cbC (commandFound D s).1.log = tr .cbC s.log := by
  simp [commandFound, ht, ho, ackError_spec, cls]

theorem C09_only_test_read (D : Desc) (s : St) (ht : s.cmdType = .read) (ho : (D.cmdD s.cmd).onlyTest = true) :
    (commandFound D s).1.state = .flushWait ∧ tr .ack (commandFound D s).1.log = tr .ack s.log ++ [.ack false] ∧
    tr .cbC (commandFound D s).1.log = tr .cbC s.log := by
  simp [commandFound, ht, ho, ackError_spec, cls]

theorem C09_only_test_write (D : Desc) (s : St) (i : SvcIn) (hs : s.state = .parseCommandArgs)
    (hrd : i.rd = some 10) (ho : (D.cmdD s.cmd).onlyTest = true) :
    (commandService D s i).1.state = .flushWait ∧
    tr .ack (commandService D s i).1.log = tr .ack s.log ++ [.ack false] ∧
    tr .cbC (commandService D s i).1.log = tr .cbC s.log ∧ (commandService D s i).1.mem = s.mem := by
  simp [commandService, hs, parseCommandArgs, readCmdChar, hrd, ho, ackError_spec, cls]

theorem C09_no_run_handler (D : Desc) (s : St) (ht : s.cmdType = .run) (hr : (D.cmdD s.cmd).hasRun = false) :
    (commandFound D s).1.state = .flushWait ∧ tr .ack (commandFound D s).1.log = tr .ack s.log ++ [.ack false] ∧
    tr .cbC (commandFound D s).1.log = tr .cbC s.log := by
  simp [commandFound, ht, hr, ackError_spec, cls]

/-- non-vacuity: a one-command table whose command is disabled -/
example : disabledByIndex [{ name := none, cmds := [{ (default : CmdD) with disable := true }], disable := false }] 0 = true := by
  decide

end Cat
