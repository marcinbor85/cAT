/-
  C07 — READ output fed back as WRITE arguments restores every variable value.

  "Formatting and parsing are mutually inverse on the whole value range", proved for the model's
  printers (`decDigits`/`fmtInt` = `%u`/`%d`, `hexFixed` = `%0NX`, escaping) against its parsers:
  * `C07_uint`: for every n ≤ 2^64-1 the decimal text of n is accepted and yields n — in particular
    for every 8-, 16- and 32-bit unsigned value (`C07_uint_fits`: and it passes the range check of
    its own width);
  * `C07_int`: for every v with |v| ≤ 2^63-1 (every int8/16/32 incl. INT32_MIN) the `%d` text is
    accepted and yields sign and magnitude of v;
  * `C07_hex`: `0x` + fixed-width upper-case digits of n parse back to n (no sign extension: the
    value is printed from the unsigned reading of the variable);
  * `C07_bufhex`: the two-digits-per-byte text of any byte list decodes to that list;
  * `C07_string`: the escaped text of any NUL-free string un-escapes to that string (quotes,
    backslashes, LF, commas included).
  The agreement of the model's printers with the platform's `snprintf` and the whole READ→WRITE
  cycle through the buffer are covered by the correspondence run (exhaustive 8/16-bit values in
  the thorough tier) and the C07 twin-run oracle.
-/
import CatVerif.Proofs.RoundTrip
namespace Cat
open Spec

theorem C07_uint (n : Nat) (hn : n ≤ U64MAX) (rest : List Byte) (t : Byte) (ht : IsTerm t) :
    parseUIntDec (decDigits n ++ t :: rest) 0 false 0 =
      { ret := if t = 44 then 1 else 0, val := n, used := (decDigits n).length + 1 } :=
  rt_uint n hn rest t ht

/-- the printed text of a value of the variable's own width is in the grammar and in range -/
theorem C07_uint_fits (size n : Nat) (hs : size = 1 ∨ size = 2 ∨ size = 4) (hn : n < 2 ^ (8 * size)) :
    IsUIntText (decDigits n) ∧ fitsU size (decValue (decDigits n)) := by
  have ⟨h1, h2, h3⟩ := decDigits_spec n
  exact ⟨⟨h2, h1⟩, hs, by rw [h3]; exact hn⟩

theorem C07_int (v : Int) (hv : v.natAbs ≤ I64MAX) (rest : List Byte) (t : Byte) (ht : IsTerm t) :
    parseIntDec (fmtInt v ++ t :: rest) 0 0 false 0 =
      { ret := if t = 44 then 1 else 0, val := v.natAbs, neg := decide (v < 0), used := (fmtInt v).length + 1 } :=
  rt_int v hv rest t ht

theorem C07_hex (w n : Nat) (hw : 0 < w) (hn : n ≤ U64MAX) (rest : List Byte) (t : Byte) (ht : IsTerm t) :
    parseNumHex (([48, 120] ++ hexFixed w n) ++ t :: rest) 0 0 0 =
      { ret := if t = 44 then 1 else 0, val := n, used := (hexFixed w n).length + 2 + 1 } :=
  rt_hex w n hn rest t ht

theorem C07_bufhex (bs : List Byte) (hb : ∀ b ∈ bs, b < 256) : hexPairs (bs.flatMap (hexFixed 2)) = some bs :=
  rt_bufhex bs hb

theorem C07_string (s : List Byte) (h0 : ∀ b ∈ s, b ≠ 0) : unescape (escape s) = some s :=
  rt_string s h0

theorem ofSigned_toSigned (bits raw : Nat) (hr : raw < 2 ^ bits) : ofSigned bits (toSigned bits raw) = raw := by
  have hr' : (raw : Int) < 2 ^ bits := by exact_mod_cast hr
  have e : (toSigned bits raw) % 2 ^ bits = (raw : Int) := by
    unfold toSigned
    split
    · exact Int.emod_eq_of_lt (Int.natCast_nonneg raw) hr'
    · rw [Int.sub_emod_right]; exact Int.emod_eq_of_lt (Int.natCast_nonneg raw) hr'
  unfold ofSigned
  rw [e, Int.toNat_natCast]

/-- the signed reading of a stored pattern and its re-encoding are inverse (two's complement), so the
value printed by `%d` for a stored int8/16/32 and stored back is the same bit pattern -/
theorem C07_signed_pattern (bits raw : Nat) (hb : bits = 8 ∨ bits = 16 ∨ bits = 32) (hr : raw < 2 ^ bits) :
    ofSigned bits (toSigned bits raw) = raw :=
  ofSigned_toSigned bits raw hr

/-- non-vacuity: INT32_MIN round-trips -/
example : fmtInt (-2147483648) = [45, 50, 49, 52, 55, 52, 56, 51, 54, 52, 56] := by
  simp [fmtInt, decDigits]

end Cat
