/-
  C18 — cat_is_busy / cat_is_hold never report idle while work is in flight.

  Proved (with `is_busy` / `is_hold` regenerated from the source, translator item T2):
  * `C18_busy_ok_iff_idle`: `cat_is_busy` answers OK exactly when BOTH machines are idle (this is
    what the F5 repair established); in particular not while either machine is waiting to write or
    writing a unit, nor in any parsing or processing state (`C18_not_idle_busy`);
  * `C18_quiescent_ok`: once `cat_service` reported OK and the command machine is in IDLE (no
    partial line pending), `cat_is_busy` does answer OK;
  * `C18_is_hold_iff`: along every history, `cat_is_hold` answers HOLD iff a command is suspended.
  The link from "both machines idle" to the wording of the property ("no command line partially
  received or still being processed, no unit partially emitted") is the state/line coupling
  (DESIGN.md Appendix B.1): IDLE is left at the first non-CR byte of a line and re-entered only by
  `reset_state` after the line's result code was flushed; a unit is in progress only in the
  flush states.  That coupling is checked on the implementation by the C18 oracle at every call.
-/
import CatVerif.Properties.C14
import CatVerif.Properties.C15
namespace Cat
open St

theorem is_busy_eq (a : CState) (b : UState) :
    Gen.is_busy a.code b.code = if a = .idle ∧ b = .idle then Gen.CAT_STATUS_OK else Gen.CAT_STATUS_BUSY := by
  simp only [Gen.is_busy, ne_eq, CState.code_idle, UState.code_idle]
  by_cases ha : a = .idle <;> by_cases hb : b = .idle <;> simp [ha, hb]

theorem C18_busy_ok_iff_idle (D : Desc) (s : St) (hm : D.hasMutex = false) :
    (catIsBusy D s 0 0).2 = Gen.CAT_STATUS_OK ↔ (s.state = .idle ∧ s.ustate = .idle) := by
  have e : (catIsBusy D s 0 0).2 = Gen.is_busy s.state.code s.ustate.code := by
    simp [catIsBusy, withMutex, hm, isBusyBody]
  rw [e, is_busy_eq]
  by_cases h : s.state = .idle ∧ s.ustate = .idle
  · rw [if_pos h]; exact ⟨fun _ => h, fun _ => rfl⟩
  · rw [if_neg h]; exact ⟨fun x => absurd x (by decide), fun x => absurd x h⟩

theorem C18_not_idle_busy (s : St) (h : s.state ≠ .idle ∨ s.ustate ≠ .idle) :
    Gen.is_busy s.state.code s.ustate.code = Gen.CAT_STATUS_BUSY := by
  rw [is_busy_eq, if_neg (fun ⟨h1, h2⟩ => h.elim (· h1) (· h2))]

/-- after `cat_service` reported OK with no partial line pending, `cat_is_busy` reports OK -/
theorem C18_quiescent_ok (D : Desc) (s : St) (i : SvcIn) (h : (serviceBody D s i).2 = Gen.CAT_STATUS_OK)
    (hidle : (serviceBody D s i).1.state = .idle) :
    Gen.is_busy (serviceBody D s i).1.state.code (serviceBody D s i).1.ustate.code = Gen.CAT_STATUS_OK := by
  rw [is_busy_eq, if_pos ⟨hidle, (serviceBody_ok_quiescent D s i h).1⟩]

theorem C18_is_hold_iff (D : Desc) (buf ubuf : List Byte) (mem : List (List Byte)) (ops : List Op)
    (hok : ∀ op ∈ ops, OpOk op) :
    let w := (runOps ⟨D, init D buf ubuf mem⟩ ops).1
    ((catIsHold w.D w.s 0 0).2 = Gen.CAT_STATUS_HOLD ↔ w.s.state = .hold) := by
  intro w
  have h : w.s.holdFlag = true ↔ w.s.state = .hold := C14_flag_iff_hold D buf ubuf mem ops hok
  rw [C14_is_hold, ← h]
  cases w.s.holdFlag <;> decide

end Cat
