/-
  C06 — Handlers see exactly the sent arguments; over-long lines are rejected, not cut.

  `ArgsInv D s args`: the command buffer holds exactly the bytes `args` in its first `s.length`
  positions, a NUL behind them, all inside the command region (`Proofs/Args.lean`).
  * `C06_args_start`: entering argument collection (`=` or implicit write) establishes `ArgsInv … []`;
  * `C06_args_byte`: every further byte other than LF / CR (and other than the `?` that makes a TEST
    request) is appended unchanged — no case folding, any byte value — as long as it and its
    terminator fit; `C06_args_overflow`: otherwise the line goes to the ERROR state: nothing is
    dropped silently;
  * `C06_args_cr`: CR bytes are skipped;
  * `C06_args_lf`: LF ends collection without touching text or length: the line is handed to the
    variable parser or the write handler, or refused with ERROR;
  * `C06_parse_keeps_args`: parsing variables changes neither the text nor its length;
  * `C06_write_handler`: the write handler receives exactly `args`, NUL-terminated, its length,
    and the number of variables parsed (`s.index`);
  * `C06_error_state_inert`: in the ERROR state (where an over-long line ends up) no handler and no
    variable callback runs and no variable is stored, until the line's LF is answered with ERROR;
  * `C06_read_handler`, `C06_test_handler` (both machines): the handler receives the C string at
    the start of its own region, `position` as length and the capacity of that region;
    `C06_print_terminates`: a successful print leaves `position` on a NUL inside the region.
-/
import CatVerif.Proofs.Args
import CatVerif.Properties.C02
import CatVerif.Proofs.Text
namespace Cat
open St

theorem C06_args_start (D : Desc) (s : St) (i : SvcIn) (hs : s.state = .commandFound) (ht : s.cmdType = .write)
    (h0 : 0 < D.cmdCap) (hc : D.cmdCap ≤ s.buf.length) :
    ArgsInv D (commandService D s i).1 [] ∧ (commandService D s i).1.state = .parseCommandArgs ∧
    (commandService D s i).1.cmd = s.cmd := by
  have : 0 < D.capOf .cmd := h0
  simp [commandService, commandFound, ArgsInv, hs, ht, setB, this]
  exact ArgsOk.empty h0 hc

/-- the `?` that turns a WRITE into a TEST request (`C02_suffix_test`) -/
def isTestMark (D : Desc) (s : St) (b : Byte) : Bool :=
  s.length == 0 && b == 63 && ((D.cmdD s.cmd).hasTest || ((D.cmdD s.cmd).vars.isSome && (D.cmdD s.cmd).varNum > 0))
    && (D.cmdD s.cmd).implicitWrite == false

/-- `parse_command_args` after the byte has been read, in terms of a state `t` that agrees with
`s` on everything the function looks at -/
theorem parseCommandArgs_got (D : Desc) (s : St) (i : SvcIn) (b : Byte) (hs : s.state = .parseCommandArgs) (hr : i.rd = some b) :
    ∃ t : St, t.buf = s.buf ∧ t.length = s.length ∧ t.cmd = s.cmd ∧ t.cmdType = s.cmdType ∧ t.state = s.state ∧
      t.currentChar = b ∧ t.index = s.index ∧ t.oob = s.oob ∧ (s.cmd.isSome → t.ub = s.ub) ∧
      (commandService D s i).1 =
        (if b == 10 then
          if (D.cmdD t.cmd).onlyTest then ackError D t
          else if varsAccessible (D.cmdD t.cmd) .wo then
            if strlenOf (region D t .cmd 0) != t.length then ackError D t
            else { t with state := .parseWriteArgs, position := 0, index := 0 }
          else if !(D.cmdD t.cmd).hasWrite then ackError D t
          else { t with index := 0, state := .writeLoop }
        else if b == 13 then { t with crFlag := true }
        else if isTestMark D s b then { t with cmdType := .test, state := .waitTestAck }
        else if t.length ≥ D.cmdCap then { t with state := .error }
        else
          let t1 := { setB D t .cmd t.length b with length := t.length + 1 }
          if t1.length < D.cmdCap then setB D t1 .cmd t1.length 0 else { t1 with state := .error }) := by
  refine ⟨(rdChar s b).chkUb s.cmd.isSome, by simp [rdChar], by simp [rdChar], by simp [rdChar], by simp [rdChar],
    by simp [rdChar], by simp [rdChar, hs], by simp [rdChar], (by simp [rdChar, St.chkUb]; split <;> rfl),
    (by intro h; simp [rdChar, St.chkUb, h]), ?_⟩
  rw [commandService_reader i (by simp [hs, Reading]), hs]
  simp [reader, hr, readerBody, isTestMark, rdChar, hs]

theorem C06_args_byte (D : Desc) (s : St) (i : SvcIn) (args : List Byte) (b : Byte)
    (hs : s.state = .parseCommandArgs) (hr : i.rd = some b) (h10 : b ≠ 10) (h13 : b ≠ 13)
    (hq : isTestMark D s b = false) (hinv : ArgsInv D s args) (hroom : s.length + 1 < D.cmdCap) :
    let s' := (commandService D s i).1
    ArgsInv D s' (args ++ [b]) ∧ s'.state = .parseCommandArgs ∧ s'.cmd = s.cmd ∧ s'.cmdType = s.cmdType := by
  obtain ⟨t, t1, t2, t3, t4, t5, t6, t7, _, _, e⟩ := parseCommandArgs_got D s i b hs hr
  have h1 : s.length < D.capOf .cmd := by show s.length < D.cmdCap; omega
  have h2 : s.length + 1 < D.capOf .cmd := hroom
  have hge : ¬ D.cmdCap ≤ s.length := by omega
  simp only [e, ArgsInv]
  simp [h10, h13, hq, hge, hroom, setB, h1, h2, t1, t2, t3, t4, t5, hs]
  exact ArgsOk.push hinv b hroom

theorem C06_args_overflow (D : Desc) (s : St) (i : SvcIn) (b : Byte)
    (hs : s.state = .parseCommandArgs) (hr : i.rd = some b) (h10 : b ≠ 10) (h13 : b ≠ 13)
    (hq : isTestMark D s b = false) (hroom : ¬ s.length + 1 < D.cmdCap) :
    (commandService D s i).1.state = .error := by
  obtain ⟨t, t1, t2, t3, t4, t5, t6, t7, _, _, e⟩ := parseCommandArgs_got D s i b hs hr
  simp only [e]
  simp [h10, h13, hq, t2, hroom]
  split <;> rfl

theorem C06_args_cr (D : Desc) (s : St) (i : SvcIn) (args : List Byte)
    (hs : s.state = .parseCommandArgs) (hr : i.rd = some 13) (hinv : ArgsInv D s args) :
    ArgsInv D (commandService D s i).1 args ∧ (commandService D s i).1.state = .parseCommandArgs ∧
    (commandService D s i).1.cmd = s.cmd := by
  obtain ⟨t, t1, t2, t3, t4, t5, t6, t7, _, _, e⟩ := parseCommandArgs_got D s i 13 hs hr
  simp only [e, ArgsInv]
  simp [t1, t2, t3, t5, hs]
  exact hinv

theorem C06_args_lf (D : Desc) (s : St) (i : SvcIn) (args : List Byte)
    (hs : s.state = .parseCommandArgs) (hr : i.rd = some 10) (hinv : ArgsInv D s args) :
    let s' := (commandService D s i).1
    (∃ t, s' = ackError D t) ∨
    (ArgsInv D s' args ∧ s'.cmd = s.cmd ∧ s'.index = 0 ∧ (s'.state = .parseWriteArgs ∨ s'.state = .writeLoop)) := by
  obtain ⟨t, t1, t2, t3, t4, t5, t6, t7, _, _, e⟩ := parseCommandArgs_got D s i 10 hs hr
  have hi : ArgsInv D t args := by unfold ArgsInv; rw [t1, t2]; exact hinv
  intro s'
  have hs' : s' = _ := e
  clear_value s'
  simp only [beq_self_eq_true, if_true] at hs'
  revert hs'
  repeat' (with_reducible refine rel_ite (R := fun r : St => s' = r → _) (fun _ => ?_) (fun _ => ?_))
  all_goals intro hs'; subst hs'
  · exact Or.inl ⟨_, rfl⟩
  · exact Or.inl ⟨_, rfl⟩
  · exact Or.inr ⟨hi, t3, rfl, Or.inl rfl⟩
  · exact Or.inl ⟨_, rfl⟩
  · exact Or.inr ⟨hi, t3, rfl, Or.inr rfl⟩

/-- one call of `parse_write_args` either answers the line or leaves the argument text, its length
and the selected command as they are; the variable counter grows by one -/
theorem C06_parse_keeps_args (D : Desc) (s : St) (i : SvcIn) (args : List Byte)
    (hs : s.state = .parseWriteArgs) (hinv : ArgsInv D s args) :
    let s' := (commandService D s i).1
    (∃ t, s' = ackError D t ∨ s' = ackOk D t) ∨
    (ArgsInv D s' args ∧ s'.cmd = s.cmd ∧ s'.index = s.index + 1 ∧ (s'.state = .parseWriteArgs ∨ s'.state = .writeLoop)) := by
  -- the result is named first, so that the case analysis below works on one copy of `parse_write_args`
  intro s'
  have hs' : s' = (parseWriteArgs D s i).1 := by simp only [s', commandService, hs]
  clear_value s'
  simp only [parseWriteArgs] at hs'
  generalize ht : (varWriteCb D (parseVarValue D _ _).1 _ i).1 = t at hs'
  have k : ArgsInv D t args ∧ t.cmd = s.cmd ∧ t.index = s.index ∧ t.state = .parseWriteArgs := by
    subst ht; simpa [ArgsInv, hs] using hinv
  revert hs'
  repeat' (with_reducible refine rel_ite (R := fun r : St × Int => s' = r.1 → _) (fun _ => ?_) (fun _ => ?_))
  all_goals intro hs'; subst hs'
  · exact .inl ⟨_, .inl rfl⟩
  · exact .inl ⟨_, .inl rfl⟩
  · exact .inr ⟨k.1, k.2.1, by simp [k.2.2.1], .inl k.2.2.2⟩
  · exact .inl ⟨_, .inl rfl⟩
  · exact .inl ⟨_, .inl rfl⟩
  · exact .inl ⟨_, .inr rfl⟩
  · exact .inr ⟨k.1, k.2.1, by simp [k.2.2.1], .inr rfl⟩

/-- **The write handler receives exactly the collected bytes**: the text `args`, NUL-terminated
(`z = true`), its exact length, and the number of variables parsed -/
theorem C06_write_handler (D : Desc) (s : St) (i : SvcIn) (args : List Byte)
    (hs : s.state = .writeLoop) (hinv : ArgsInv D s args) :
    tr .cbC (commandService D s i).1.log =
      tr .cbC s.log ++ [.handler .cmd .write (s.cmd.getD 0) args true args.length s.index i.hc.ret] := by
  rw [C02_write_invokes D s i hs, hinv.handler_view.1, hinv.handler_view.2, ← hinv.len]

/-- the ERROR state is inert: whatever arrives, no handler or variable callback runs and no
variable is stored; the state is left only through the line's LF, which is answered with ERROR -/
theorem C06_error_state_inert (D : Desc) (s : St) (i : SvcIn) (hs : s.state = .error) :
    let s' := (commandService D s i).1
    tr .cbC s'.log = tr .cbC s.log ∧ tr .mem s'.log = tr .mem s.log ∧ s'.mem = s.mem ∧
    (s'.state = .error ∨ (∃ b, i.rd = some b ∧ toUpper b = 10 ∧ ∃ t, s' = ackError D t)) := by
  refine ⟨commandService_logs .cbC D s i (by simp [hs, cmdLogs]) (.of_ne (by decide) (by decide)) (.of_ne (by decide) (by decide)),
    commandService_logs .mem D s i (by simp [hs, cmdLogs]) (.of_ne (by decide) (by decide)) (.of_ne (by decide) (by decide)),
    by simp [commandService, hs], ?_⟩
  rw [commandService_reader i (by simp [hs, Reading]), hs]
  unfold reader
  cases hr : i.rd with
  | none => exact .inl hs
  | some b =>
    have hc : (rdChar s b).currentChar = toUpper b := by simp [rdChar, hs]
    have hst : (rdChar s b).state = .error := by simp [rdChar, hs]
    simp only [readerBody, hc]
    by_cases h10 : toUpper b = 10
    · exact .inr ⟨b, rfl, h10, rdChar s b, by simp [h10]⟩
    · left; simp only [beq_iff_eq, h10, if_false]; split <;> exact hst

/-- the read handler of the command machine: the C string at the start of the command region,
`position` as its length, and the capacity of the command region -/
theorem C06_read_handler (D : Desc) (s : St) (i : SvcIn) (hs : s.state = .readLoop) :
    tr .cbC (commandService D s i).1.log =
      tr .cbC s.log ++ [.handler .cmd .read (s.cmd.getD 0) (cstr D s .cmd).1 (cstr D s .cmd).2 s.position D.cmdCap i.hc.ret] :=
  C02_read_invokes D s i hs

theorem C06_test_handler (D : Desc) (s : St) (i : SvcIn) (hs : s.state = .testLoop) :
    tr .cbC (commandService D s i).1.log =
      tr .cbC s.log ++ [.handler .cmd .test (s.cmd.getD 0) (cstr D s .cmd).1 (cstr D s .cmd).2 s.position D.cmdCap i.hc.ret] :=
  C02_test_invokes D s i hs

/-- the same for the unsolicited machine: its own region, its own position, its own capacity —
never the command half -/
theorem C06_read_handler_uns (D : Desc) (s : St) (i : SvcIn) (hs : s.ustate = .readLoop) :
    tr .cbU (unsolicitedEventsService D s i).1.log =
      tr .cbU s.log ++ [.handler .uns .read (s.ucmd.getD 0) (cstr D s .uns).1 (cstr D s .uns).2 s.uposition D.unsCap i.hu.ret] :=
  machineStep_invokes (f := .uns) (k := .read) i hs

theorem C06_test_handler_uns (D : Desc) (s : St) (i : SvcIn) (hs : s.ustate = .testLoop) :
    tr .cbU (unsolicitedEventsService D s i).1.log =
      tr .cbU s.log ++ [.handler .uns .test (s.ucmd.getD 0) (cstr D s .uns).1 (cstr D s .uns).2 s.uposition D.unsCap i.hu.ret] :=
  machineStep_invokes (f := .uns) (k := .test) i hs

/-- a successful print leaves `position` inside the region (so the terminator it stores is too) -/
theorem C06_print_terminates (D : Desc) (s : St) (f : Fsm) (x : List Byte) (h : (printN D s f x).2 = true) :
    (printN D s f x).1.pos f = s.pos f + x.length ∧ (printN D s f x).1.pos f < D.capOf f := by
  have hlt := (printN_ok D s f x).1.1 h
  have hp := (printN_ok D s f x).2 h
  exact ⟨hp, by omega⟩

/-- non-vacuity: `ArgsOk` on a 4-byte buffer holding one argument byte, and `ArgsOk.push` on it -/
example : ArgsOk 4 [65, 0, 9, 9] 1 [65] := ⟨rfl, rfl, rfl, by decide, by decide⟩
example : ArgsOk 4 (([65, 0, 9, 9] : List Byte).set 1 66 |>.set 2 0) 2 ([65] ++ [66]) :=
  ArgsOk.push (cap := 4) (buf := [65, 0, 9, 9]) (n := 1) (args := [65]) ⟨rfl, rfl, rfl, by decide, by decide⟩ 66 (by decide)

/-- **exact text, first round, handler-only READ** (partial: commands whose variables are formatted first go through
`format_read_args`, where only "the cursor stands on a NUL inside the region" is proved): when READ of a command without
readable variables is started, the next call of the command machine invokes its read handler with exactly the command's
name followed by `=` as NUL-terminated text, `data_size` = its length, `max_data_size` = the capacity of the command region -/
theorem C06_first_read_text_partial (D : Desc) (s : St) (i : SvcIn) (hb : D.cmdCap ≤ s.buf.length) (hc : s.cmd.isSome = true)
    (hv : varsAccessible (D.cmdD s.cmd) .ro = false) (hr : (D.cmdD s.cmd).hasRead = true)
    (hfit : (D.cmdD s.cmd).name.length + 1 < D.cmdCap) (hn : ∀ b ∈ (D.cmdD s.cmd).name, b ≠ 0) :
    tr .cbC (commandService D (startFormatRead D s .cmd) i).1.log =
      tr .cbC (startFormatRead D s .cmd).log ++
        [.handler .cmd .read (s.cmd.getD 0) ((D.cmdD s.cmd).name ++ [61]) true ((D.cmdD s.cmd).name.length + 1) D.cmdCap i.hc.ret] :=
  first_read_text D .cmd s i hb hc hv hr hfit hn

/-- the printing primitive appends (both the text and its terminator), so the text under the cursor grows by exactly the
printed bytes -/
theorem C06_print_appends {D : Desc} {s : St} {t : List Byte} (x : List Byte) (hb : D.cmdCap ≤ s.buf.length) (h : PreC D s t)
    (ok : (printN D s .cmd x).2 = true) : TxtC D (printN D s .cmd x).1 (t ++ x) := (printN_txtF (f := .cmd) x hb h ok).1

/-- the premises of `C06_first_read_text_partial` are satisfiable: a command `+R` with a read handler and no variables, a
16-byte shared buffer (command half 8 bytes), the command selected -/
def exReadCmd : CmdD := ⟨[43, 82], none, false, true, false, false, none, false, false, false, false⟩
def exReadDesc : Desc := ⟨[⟨none, [exReadCmd], false⟩], [], 16, none, 1, false⟩
example : exReadDesc.cmdCap ≤ (List.replicate 16 (165 : Byte)).length ∧
    varsAccessible (exReadDesc.cmdD (some 0)) .ro = false ∧ (exReadDesc.cmdD (some 0)).hasRead = true ∧
    (exReadDesc.cmdD (some 0)).name.length + 1 < exReadDesc.cmdCap ∧ (∀ b ∈ (exReadDesc.cmdD (some 0)).name, b ≠ 0) ∧
    (cstr exReadDesc (startFormatRead exReadDesc { ({} : St) with cmd := some 0, buf := List.replicate 16 165 } .cmd) .cmd)
      = ([43, 82, 61], true) := by decide

/-- **exact text, first round, TEST of a command without variables** (partial in the same sense): when TEST of a command with a
test handler and no variables is started, the next call invokes the test handler with exactly name ++ `=` (++ line break ++
description, when the command has one) as NUL-terminated text, its length and the capacity -/
theorem C06_first_test_text_partial (D : Desc) (s : St) (i : SvcIn) (hb : D.cmdCap ≤ s.buf.length) (hc : s.cmd.isSome = true)
    (hv : ((D.cmdD s.cmd).vars.isSome && decide ((D.cmdD s.cmd).varNum > 0)) = false) (ht : (D.cmdD s.cmd).hasTest = true)
    (hfit : (testText (D.cmdD s.cmd) (nlStr s)).length < D.cmdCap)
    (hn : ∀ b ∈ testText (D.cmdD s.cmd) (nlStr s), b ≠ 0) :
    tr .cbC (commandService D (startFormatTest D s .cmd) i).1.log =
      tr .cbC (startFormatTest D s .cmd).log ++
        [.handler .cmd .test (s.cmd.getD 0) (testText (D.cmdD s.cmd) (nlStr s)) true (testText (D.cmdD s.cmd) (nlStr s)).length
          D.cmdCap i.hc.ret] :=
  first_test_text D .cmd s i hb hc hv ht hfit hn

/-- **exact text, first round, unsolicited READ event of a handler-only command** (partial in the same sense as
`C06_first_read_text_partial`): the read handler of the event's command is invoked with exactly name ++ `=` as NUL-terminated
text in the unsolicited machine's own region — its own buffer or its half of the shared one —, `data_size` = its length,
`max_data_size` = that region's capacity -/
theorem C06_first_read_text_uns_partial (D : Desc) (s : St) (i : SvcIn) (hb : BufLen D s .uns) (hc : s.ucmd.isSome = true)
    (hv : varsAccessible (D.cmdD s.ucmd) .ro = false) (hr : (D.cmdD s.ucmd).hasRead = true)
    (hfit : (D.cmdD s.ucmd).name.length + 1 < D.unsCap) (hn : ∀ b ∈ (D.cmdD s.ucmd).name, b ≠ 0) :
    tr .cbU (unsolicitedEventsService D (startFormatRead D s .uns) i).1.log =
      tr .cbU (startFormatRead D s .uns).log ++
        [.handler .uns .read (s.ucmd.getD 0) ((D.cmdD s.ucmd).name ++ [61]) true ((D.cmdD s.ucmd).name.length + 1) D.unsCap i.hu.ret] :=
  first_read_text D .uns s i hb hc hv hr hfit hn

/-- **exact text, first round, unsolicited TEST event of a command without variables**: the test handler gets exactly
name ++ `=` (++ line break ++ description) in the unsolicited machine's own region, its length and that region's capacity -/
theorem C06_first_test_text_uns_partial (D : Desc) (s : St) (i : SvcIn) (hb : BufLen D s .uns) (hc : s.ucmd.isSome = true)
    (hv : ((D.cmdD s.ucmd).vars.isSome && decide ((D.cmdD s.ucmd).varNum > 0)) = false) (ht : (D.cmdD s.ucmd).hasTest = true)
    (hfit : (testText (D.cmdD s.ucmd) (nlStr s)).length < D.unsCap)
    (hn : ∀ b ∈ testText (D.cmdD s.ucmd) (nlStr s), b ≠ 0) :
    tr .cbU (unsolicitedEventsService D (startFormatTest D s .uns) i).1.log =
      tr .cbU (startFormatTest D s .uns).log ++
        [.handler .uns .test (s.ucmd.getD 0) (testText (D.cmdD s.ucmd) (nlStr s)) true (testText (D.cmdD s.ucmd) (nlStr s)).length
          D.unsCap i.hu.ret] :=
  first_test_text D .uns s i hb hc hv ht hfit hn

end Cat
