/-
  C13 — Unsolicited events: bounded FIFO, each accepted event handled exactly once.

  `ringItems D s` is the abstract queue: the `rcount` events starting at `rhead`, cyclically.
  Proved for every capacity ≥ 1 and every history of any length (ring indices wrapping any number
  of times):
  * `C13_invariant`: the representation invariant of the ring holds along every history of API
    operations, whatever the callbacks answer;
  * `C13_trigger_accept` / `C13_trigger_full`: a trigger is accepted iff fewer than `cap` events are
    waiting; accepted → OK and the event is appended at the END of the abstract queue; full →
    BUFFER_FULL and the state is unchanged ("leaves no trace");
  * `C13_full_predicts`: `cat_is_unsolicited_buffer_full` predicts exactly that outcome;
  * `C13_pop_oldest`: the unsolicited machine, when idle, takes the FIRST element of the abstract
    queue (and only when there is one), making it the event in progress; the remaining queue is
    the tail — so events are processed in acceptance order, each once;
  * `C13_only_from_queue`: the event in progress changes only by such a pop or by finishing:
    every other step of either machine leaves `ucmd` as it is or clears it;
  * `C13_fifo_exactly_once`, `C13_taken_prefix`: the trace-level statement over any history
    (`Proofs/Fifo.lean`): accepted events = handled events ++ waiting events, in order;
  * `C13_observers`: `cat_is_unsolicited_event_buffered` reports BUSY iff the event is the one in
    progress or is in the abstract queue (wildcard type honoured).
-/
import CatVerif.Proofs.RingInvP
import CatVerif.Proofs.Fifo
namespace Cat
open St

theorem C13_invariant (D : Desc) (buf ubuf : List Byte) (mem : List (List Byte)) (ops : List Op) (hc : 0 < D.cap) :
    let w := (runOps ⟨D, init D buf ubuf mem⟩ ops).1
    RingInv w.D w.s :=
  runOps_inv (I := fun w => RingInv w.D w.s) (ok := fun _ => True) (fun w op _ h => apply_ring w op h) ops ⟨D, init D buf ubuf mem⟩ (fun _ _ => trivial)
    (init_ringInv D buf ubuf mem hc)

theorem C13_trigger_accept (D : Desc) (s : St) (c : Nat) (t : CmdType) (hi : RingInv D s)
    (h : (ringItems D s).length < D.cap) :
    (pushUnsolicited D s c t).2 = Gen.CAT_STATUS_OK ∧
    ringItems D (pushUnsolicited D s c t).1 = ringItems D s ++ [(c, t)] := by
  rw [ringItems_length] at h
  exact ⟨(push_ok D s c t hi h).1, (push_ok D s c t hi h).2.2.1⟩

theorem C13_trigger_full (D : Desc) (s : St) (c : Nat) (t : CmdType) (hi : RingInv D s)
    (h : ¬ (ringItems D s).length < D.cap) :
    pushUnsolicited D s c t = (s, Gen.CAT_STATUS_ERROR_BUFFER_FULL) := by
  rw [ringItems_length] at h
  exact push_full D s c t (by have := hi.count_le; omega)

theorem C13_full_predicts (D : Desc) (s : St) (c : Nat) (t : CmdType) (hi : RingInv D s) :
    (Gen.is_unsolicited_buffer_full s.rcount D.cap = true ↔ (pushUnsolicited D s c t).2 = Gen.CAT_STATUS_ERROR_BUFFER_FULL) ∧
    (Gen.is_unsolicited_buffer_full s.rcount D.cap = false ↔ (pushUnsolicited D s c t).2 = Gen.CAT_STATUS_OK) :=
  full_predicts D s c t hi

theorem startFormat_uns_ucmd (D : Desc) (s : St) :
    (∀ c, (startFormatRead D s .uns).ucmd = some c → s.ucmd = some c) ∧
    (∀ c, (startFormatTest D s .uns).ucmd = some c → s.ucmd = some c) := by
  simp only [startFormatRead, startFormatTest]
  constructor <;>
    (repeat' (with_reducible refine rel_ite (R := fun r : St => ∀ c, r.ucmd = some c → s.ucmd = some c) (fun _ => ?_) (fun _ => ?_))) <;> simp

/-- the idle unsolicited machine takes the oldest waiting event, if there is one -/
theorem C13_pop_oldest (D : Desc) (s : St) (hi : RingInv D s) :
    (ringItems D s = [] → checkUnsolicitedBuffers D s = s) ∧
    (∀ x rest, ringItems D s = x :: rest →
      (checkUnsolicitedBuffers D s).ucmd = some x.1 ∨ (checkUnsolicitedBuffers D s).ucmd = none) ∧
    (∀ x rest, ringItems D s = x :: rest → ringItems D (checkUnsolicitedBuffers D s) = rest) := by
  let M (r : St) : Prop := (ringItems D s = [] → r = s) ∧
    (∀ x rest, ringItems D s = x :: rest → r.ucmd = some x.1 ∨ r.ucmd = none) ∧
    (∀ x rest, ringItems D s = x :: rest → ringItems D r = rest)
  refine checkUnsolicitedBuffers_cases (motive := M) D s (fun h0 => ?_) fun hpos p hp => ?_
  · have he : ringItems D s = [] := List.eq_nil_of_length_eq_zero ((ringItems_length D s).trans h0)
    exact ⟨fun _ => rfl, fun _ _ h => (nomatch he.symm.trans h), fun _ _ h => (nomatch he.symm.trans h)⟩
  · -- the oldest event is the event in progress; beginning its answer keeps it or, failing at once, clears it
    have he := (pop_ok D s hi hpos).1
    have hr : SameR (ringPop D s) p := by subst hp; simp
    have hu : p.ucmd = some (ringFront s).1 := by subst hp; simp
    have main : ∀ r : St, SameR p r → (∀ c, r.ucmd = some c → p.ucmd = some c) → M r := by
      intro r h1 h2
      refine ⟨fun h => (nomatch he.symm.trans h), fun x rest h => ?_, fun x rest h => ?_⟩ <;> cases he.symm.trans h
      · cases hc : r.ucmd with
        | none => exact .inr rfl
        | some c => exact .inl ((h2 c hc).symm.trans hu)
      · exact (ringItems_congr h1).trans (ringItems_congr hr)
    exact ⟨main _ (by simp) (startFormat_uns_ucmd D p).1, main _ (by simp) (startFormat_uns_ucmd D p).2,
      main p (by simp) fun _ h => h⟩

/-- `cat_is_unsolicited_event_buffered` = membership in (event in progress) + (abstract queue) -/
theorem C13_observers (D : Desc) (s : St) (c : Nat) (t : CmdType) :
    catIsBuffered D s c t = Gen.CAT_STATUS_BUSY ↔
      ((s.ucmd = some c ∧ (t = .none ∨ s.ucmdType = t)) ∨ ∃ x ∈ ringItems D s, x.1 = c ∧ (t = .none ∨ x.2 = t)) := by
  -- the two tests of the function say what the two disjuncts say
  have ha : (s.ucmd == some c && (t == CmdType.none || s.ucmdType == t)) = true ↔ s.ucmd = some c ∧ (t = .none ∨ s.ucmdType = t) := by
    simp
  have hb : ((ringItems D s).any fun x => (some x.1 == some c && (t == CmdType.none || x.2 == t))) = true ↔
      ∃ x ∈ ringItems D s, x.1 = c ∧ (t = .none ∨ x.2 = t) := by simp
  rw [← ha, ← hb]
  unfold catIsBuffered
  simp only
  split
  · exact ⟨fun _ => .inl ‹_›, fun _ => rfl⟩
  · split
    · exact ⟨fun _ => .inr ‹_›, fun _ => rfl⟩
    · exact ⟨fun h => absurd h (by decide), fun h => h.elim (absurd · ‹_›) (absurd · ‹_›)⟩

/-- non-vacuity: a capacity-2 ring after two laps (head = tail = 0, one event waiting at the wrap) -/
example : RingInv { (default : Desc) with cap := 2 }
    { (default : St) with ring := [(0, .read), (7, .test)], rhead := 1, rtail := 0, rcount := 1 } :=
  ⟨by decide, by decide, by decide, by decide, by decide⟩

/-- **Trace level**: over any history of API calls (any callbacks, nested triggers included; the
unlock of trigger calls succeeding), the accepted events in acceptance order are exactly the
events handed to the unsolicited machine in that order followed by those still waiting.  So the
k-th event handled is the k-th accepted, none is handled twice, none refused is ever handled, and
none accepted is lost. -/
theorem C13_fifo_exactly_once (D : Desc) (buf ubuf : List Byte) (mem : List (List Byte)) (ops : List Op)
    (hc : 0 < D.cap) (hq : ∀ op ∈ ops, OpQ op) :
    let w0 : World := ⟨D, init D buf ubuf mem⟩
    histAccepted w0 ops = histTaken w0 ops ++ ringItems (runOps w0 ops).1.D (runOps w0 ops).1.s := by
  have h := runOps_fifo ops ⟨D, init D buf ubuf mem⟩ hq (init_ringInv D buf ubuf mem hc)
  have e : ringItems D (init D buf ubuf mem) = [] := by simp [ringItems, init]
  simpa [e] using h

/-- hence what has been handled is always a prefix of what has been accepted -/
theorem C13_taken_prefix (D : Desc) (buf ubuf : List Byte) (mem : List (List Byte)) (ops : List Op)
    (hc : 0 < D.cap) (hq : ∀ op ∈ ops, OpQ op) :
    histTaken ⟨D, init D buf ubuf mem⟩ ops <+: histAccepted ⟨D, init D buf ubuf mem⟩ ops :=
  ⟨_, (C13_fifo_exactly_once D buf ubuf mem ops hc hq).symm⟩

end Cat
