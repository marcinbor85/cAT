/-
  C01 — Exactly one final result code per command line, in order.

  Vocabulary (`Proofs/Line.lean`, `Proofs/Acct.lean`, `Proofs/LineHist.lean`):
  `answered s` = result codes (`ack_ok` / `ack_error`) started in the current call's log;
  `owes s` = 1 while the current line has not been given its code (everywhere except IDLE and while
  the code itself is being sent); `begins s s'` = 1 when the step takes the machine out of IDLE;
  `PostLF st` = states that lie behind the line's LF; `LineCpl s` = in those states the last consumed
  byte *is* that LF (plus the request-type bookkeeping that makes this inductive);
  `HoldCpl s` = hold flag ⇔ HOLD state; `OpOk` = event handlers do not answer HOLD (DESIGN 2.3).

  * `C01_one_code_per_line` (history level, any interleaving of API calls, any input, any table):
    codes started + code still owed = lines begun + code owed at the start.  With `C01_owes_le_one`
    lines are answered strictly one at a time, hence in order;
  * `C01_step`: the same balance for one step of the command machine, and `LineCpl` is preserved;
  * `C01_line_begins`: a line begins exactly with the first byte other than CR / LF read in IDLE;
    CR and LF in IDLE are skipped without any code (blank lines receive none);
  * `C01_code_behind_lf`: whenever a result code is being sent, the last consumed byte is the line's
    LF — no exit of the parser acknowledges a line before its LF (the F1 defect did);
  * `C01_no_read_behind_lf`: behind the LF (and during the table sweep and search) no input byte
    is consumed; `C01_idle_only_after_code`: the machine returns to IDLE only from
    AFTER_FLUSH_RESET, which `C01_code_complete` shows is entered only when the last byte of the
    code's unit has been taken by the application's `write`.
  * `C01_all_answered_at_rest` (`Proofs/MidLine.lean`): over any history from `cat_init`, whenever the
    command machine rests in a state that waits for input and the last byte it consumed was an LF
    — in particular whenever `cat_service` reports OK after an input that ends with a line break —
    it is in IDLE and the number of result codes started equals the number of lines begun: every
    line has been answered, exactly once, its code completely sent (`C01_idle_only_after_code`).
    The invariant behind it: between the first byte of a line and its LF the last consumed byte is
    not the LF (`MidLine`).
  Liveness: `C15_liveness` shows that this state of rest is reached within `mu D s + 1` calls once
  the input is exhausted, the output accepts and the handlers answer finally; together: every
  complete line gets its one result code.
-/
import CatVerif.Proofs.LineHist
import CatVerif.Proofs.MidLine
import CatVerif.Proofs.Rest
import CatVerif.Properties.C15
namespace Cat
open St

theorem C01_one_code_per_line (ops : List Op) (w : World) (hok : ∀ op ∈ ops, OpOk op) (h : LineInv w.s) :
    LineInv (runOps w ops).1.s ∧
    acksIn (runOps w ops).2 + owes (runOps w ops).1.s = owes w.s + linesBegun w ops :=
  runOps_line ops w hok h

theorem C01_owes_le_one (s : St) : owes s ≤ 1 := owes_le_one s

/-- the state `cat_init` leaves behind satisfies the invariant and owes nothing -/
theorem C01_init : LineInv ({} : St) ∧ owes ({} : St) = 0 :=
  ⟨(idle_line rfl rfl).1, (idle_line rfl rfl).2.2⟩

theorem C01_step (D : Desc) (s : St) (i : SvcIn) (hc : HoldCpl s) (hl : LineCpl s) :
    LineCpl (commandService D s i).1 ∧
    bal (commandService D s i).1 = bal s + begins s (commandService D s i).1 :=
  ⟨commandService_lineCpl D s i hl, commandService_bal D s i hc⟩

/-- IDLE: CR and LF are skipped (no code, still IDLE); any other byte begins a line -/
theorem C01_line_begins (D : Desc) (s : St) (i : SvcIn) (hs : s.state = .idle) :
    let s' := (commandService D s i).1
    tr .ack s'.log = tr .ack s.log ∧
    (i.rd = none → s'.state = .idle) ∧
    (∀ b, i.rd = some b → (toUpper b = 10 ∨ toUpper b = 13) → s'.state = .idle) ∧
    (∀ b, i.rd = some b → toUpper b ≠ 10 → toUpper b ≠ 13 → (s'.state = .parsePrefix ∨ s'.state = .error)) := by
  unfold commandService
  simp only [hs]
  refine ⟨by simp, ?_, ?_, ?_⟩
  · intro hr; simp [processIdleState, readCmdChar, hr, St.emit, hs]
  · intro b hr hb
    simp [processIdleState, readCmdChar, hr, St.emit, hs]
    rcases hb with hb | hb <;> simp [hb]
  · intro b hr h10 h13
    simp [processIdleState, readCmdChar, hr, St.emit, hs, h10, h13]
    split <;> simp

/-- while a result code is being sent, the last consumed byte is the line's LF -/
theorem C01_code_behind_lf (s : St) (hl : LineCpl s)
    (h : s.state = .afterFlushReset ∨ ((s.state = .flushWait ∨ s.state = .flushWrite) ∧ s.writeStateAfter = .reset)) :
    s.currentChar = 10 := by
  apply hl.post
  rcases h with h | ⟨h | h, _⟩ <;> simp [PostLF, h]

/-- a step that starts a result code ends in FLUSH_IO_WRITE_WAIT with AFTER_FLUSH_RESET pending,
so (by `C01_code_behind_lf`) the LF of the line was the last byte consumed -/
theorem C01_code_started (D : Desc) (s : St) (i : SvcIn) (hc : HoldCpl s)
    (h : answered (commandService D s i).1 > answered s) :
    answered (commandService D s i).1 = answered s + 1 ∧ owes s = 1 ∧ owes (commandService D s i).1 = 0 := by
  have b := commandService_bal D s i hc
  have l1 := owes_le_one s
  have hb : begins s (commandService D s i).1 = 0 := by
    by_cases hs : s.state = .idle
    · have q : answered (commandService D s i).1 = answered s := by
        unfold answered commandService; simp only [hs]
        simp
      omega
    · simp [begins, hs]
  simp only [bal] at b
  omega

/-- behind the LF, and during the table sweep and the search, no input byte is consumed — the
`read` callback is not even called -/
theorem C01_no_read_behind_lf (D : Desc) (s : St) (i : SvcIn)
    (h : PostLF s.state ∨ s.state = .updateCommandState ∨ s.state = .searchCommand ∨ s.state = .commandFound) :
    tr .rd (commandService D s i).1.log = tr .rd s.log := by
  refine commandService_no_read D s i (fun hr => ?_) (.of_ne (by decide) (by decide)) (.of_ne (by decide) (by decide))
  rcases h with h | h | h | h
  · exact hr.not_postLF h
  all_goals simp [Reading, h] at hr

/-- the machine comes back to IDLE only from AFTER_FLUSH_RESET, i.e. behind a complete result code -/
theorem C01_idle_only_after_code (D : Desc) (s : St) (i : SvcIn) (h : (commandService D s i).1.state = .idle) :
    s.state = .idle ∨ s.state = .afterFlushReset :=
  idle_pred D s i h

/-- FLUSH_IO_WRITE is left only when the closing line break of the unit has been sent completely
(`writeState = 2` and the terminator of that line break reached): a result code is always
emitted in full before AFTER_FLUSH_RESET, hence before IDLE and the next read -/
theorem C01_code_complete (D : Desc) (s : St) (i : SvcIn) (hs : s.state = .flushWrite)
    (h : (commandService D s i).1.state ≠ .flushWrite) :
    (writeByte D s .cmd).1 = 0 ∧ s.writeState = 2 ∧ (commandService D s i).1.state = s.writeStateAfter.toC := by
  rw [show commandService D s i = ioWrite D s .cmd i from machineStep_writing (f := .cmd) i hs] at h ⊢
  obtain ⟨hz, h2, e⟩ := ioWrite_leaves (D := D) (f := .cmd) i hs h
  exact ⟨hz, h2, by rw [e]; simp [St.leave]⟩

/-- **Every complete line has been answered when the parser comes to rest.**  Over any history from
the initial state: if the command machine is in a state waiting for input and the last byte it
consumed was an LF, then it is in IDLE, nothing is owed, and the result codes started equal the
lines begun. -/
theorem C01_all_answered_at_rest (D : Desc) (ops : List Op) (hok : ∀ op ∈ ops, OpOk op)
    (hr : Reading (runOps ⟨D, ({} : St)⟩ ops).1.s.state) (hc : (runOps ⟨D, ({} : St)⟩ ops).1.s.currentChar = 10) :
    (runOps ⟨D, ({} : St)⟩ ops).1.s.state = .idle ∧
    acksIn (runOps ⟨D, ({} : St)⟩ ops).2 = linesBegun ⟨D, ({} : St)⟩ ops :=
  answered_at_rest ⟨D, {}⟩ ops hok (idle_line rfl rfl).1 (idle_line rfl rfl).2.1 (idle_line rfl rfl).2.2 hr hc

/-- non-vacuity: the initial state is such a state of rest only trivially (nothing consumed yet: the
last-byte field is 0); after a blank line `\n` it is one with the LF as last byte -/
example (D : Desc) : Reading (runOps ⟨D, ({} : St)⟩ [.service { rd := some 10 }]).1.s.state ∧
    (runOps ⟨D, ({} : St)⟩ [.service { rd := some 10 }]).1.s.currentChar = 10 := by
  simp [runOps, apply, service, withMutex, serviceBody, unsolicitedEventsService, checkUnsolicitedBuffers,
    Gen.is_unsolicited_buffer_empty, commandService, processIdleState, readCmdChar, St.emit, Reading]
  cases D.hasMutex <;> simp [toUpper, sc, uc, Gen.to_upper]

/-- the state `cat_init` leaves behind, for any descriptor and buffers -/
theorem C01_init_world (D : Desc) (buf ubuf : List Byte) (mem : List (List Byte)) :
    LineInv (init D buf ubuf mem) ∧ MidLine (init D buf ubuf mem) ∧ owes (init D buf ubuf mem) = 0 :=
  idle_line rfl rfl

/-- **Every line is answered, exactly once** (C01 and the liveness of C15 composed).  Over any
history from `cat_init` (descriptor hypotheses as for `C03_no_out_of_bounds`) whose last consumed
byte is the LF of a line and which does not end in a hold: any further run of more than `mu` calls
of `cat_service` without input, with an accepting output and handlers that answer finally ends in
IDLE with both machines at rest, and over the whole history the number of result codes started
equals the number of lines begun.  (`mu` is bounded by `C15_bound`.) -/
theorem C01_every_line_answered (D : Desc) (buf ubuf : List Byte) (mem : List (List Byte)) (ops : List Op)
    (hok : ∀ op ∈ ops, OpOk op) (hn : 0 < D.commandsNum) (hc : 0 < D.cap) (hd : DescOk D) (hb : D.cmdCap ≤ buf.length)
    (hm : ∀ id, ∀ v ∈ (D.cmdD id).vars.getD [], v.dataSize ≤ (mem.getD v.slot []).length)
    (hh : (runOps ⟨D, init D buf ubuf mem⟩ ops).1.s.state ≠ .hold)
    (hlf : (runOps ⟨D, init D buf ubuf mem⟩ ops).1.s.currentChar = 10)
    (is : List SvcIn) (ht : ∀ i ∈ is, TermIn i)
    (hlen : mu (runOps ⟨D, init D buf ubuf mem⟩ ops).1.D (runOps ⟨D, init D buf ubuf mem⟩ ops).1.s < is.length) :
    let r := runOps ⟨D, init D buf ubuf mem⟩ (ops ++ is.map .service)
    r.1.s.state = .idle ∧ r.1.s.ustate = .idle ∧ r.1.s.rcount = 0 ∧
    acksIn r.2 = linesBegun ⟨D, init D buf ubuf mem⟩ (ops ++ is.map .service) := by
  have i0 := C01_init_world D buf ubuf mem
  exact lines_answered ⟨D, init D buf ubuf mem⟩ ops hok i0.1 i0.2.1 i0.2.2
    (C15_reachable_live D buf ubuf mem ops hok hn hc hd hb hm hh) hlf is ht hlen

/-- non-vacuity: after `AT` LF has been consumed the hypotheses on the end of the history hold -/
example : (runOps ⟨exDesc, init exDesc (List.replicate 16 0) [] [[0]]⟩
      [.service { rd := some 65 }, .service { rd := some 84 }, .service { rd := some 10 }]).1.s.currentChar = 10 ∧
    (runOps ⟨exDesc, init exDesc (List.replicate 16 0) [] [[0]]⟩
      [.service { rd := some 65 }, .service { rd := some 84 }, .service { rd := some 10 }]).1.s.state ≠ .hold := by
  decide

end Cat
