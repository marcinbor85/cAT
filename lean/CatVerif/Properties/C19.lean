/-
  C19 — TEST response and command list are faithful to the descriptor.

  * `C19_info_token`: the text printed for one variable in the automatic `=?` response is
    `<` name `:` TYPE `[` access `]>` with TYPE from type and width (`Spec.infoToken`), the name part
    omitted for unnamed variables; unsupported widths make the formatter fail;
  * `C19_fits_or_fails`: a sequence of prints succeeds iff the whole text fits (strictly below the
    remaining capacity): nothing is ever truncated silently — a text that does not fit makes the
    formatter report failure, which the callers turn into ERROR (`C19_test_overflow_error`);
  * `C19_list_run` … `C19_list_test`: for an enabled command the command list prints a request form
    exactly under the condition under which the dispatcher accepts that form
    (`C19_dispatch_run`, `C19_dispatch_write`, `C19_dispatch_test`; READ: `C08_read_gate`);
  * `C19_list_skips_disabled`: nothing is printed for a disabled command or a command of a disabled
    group (the F6 repair); `C19_list_order`: commands are visited in registration order.
-/
import CatVerif.Proofs.Graph
import CatVerif.Properties.C02
namespace Cat
open St

namespace Spec
/-- `<name:TYPE[access]>` -/
def infoToken (v : VarD) : Option (List Byte) :=
  match typeName v.type v.dataSize with
  | none => none
  | some tn =>
    some ([60] ++ (match v.name with | some n => n ++ [58] | none => []) ++ tn ++ [91] ++ accessName v.access ++ [93] ++ [62])
end Spec

theorem printAll_ok_iff (D : Desc) (f : Fsm) : ∀ (r : List (List Byte)) (x : List Byte) (s : St),
    (printAll D s f (x :: r)).2 = true ↔ (x :: r).flatten.length < D.capOf f - s.pos f := by
  intro r
  induction r with
  | nil =>
    intro x s
    simp only [printAll, List.flatten_cons, List.flatten_nil, List.append_nil, ← (printN_ok D s f x).1]
    split <;> simp [*]
  | cons y r ih =>
    intro x s
    have ⟨hN, hpos⟩ := printN_ok D s f x
    simp only [printAll, List.flatten_cons, List.length_append] at ih ⊢
    cases hok : (printN D s f x).2
    · have : ¬ x.length < D.capOf f - s.pos f := fun h => by rw [hN.2 h] at hok; cases hok
      exact ⟨Bool.noConfusion, fun h => by omega⟩
    · have hx := hN.1 hok
      rw [if_pos rfl, ih y, hpos hok]
      omega

/-- the automatic TEST text of one variable -/
theorem C19_info_token (D : Desc) (s : St) (f : Fsm) (v : VarD) :
    (Spec.infoToken v = none → formatInfoType D s f v = (s, false)) ∧
    (∀ t, Spec.infoToken v = some t → ∃ pieces, pieces.flatten = t ∧ formatInfoType D s f v = printAll D s f pieces) := by
  unfold Spec.infoToken formatInfoType
  cases h : typeName v.type v.dataSize with
  | none => simp
  | some tn =>
    simp only [false_implies, true_and, Option.some.injEq, reduceCtorEq]
    intro t ht
    subst ht
    cases hn : v.name <;> exact ⟨_, by simp, rfl⟩

/-- TYPE is derived from type and width; other widths are refused -/
theorem C19_type_names :
    typeName .intDec 1 = some [73, 78, 84, 56] ∧ typeName .intDec 2 = some [73, 78, 84, 49, 54] ∧
    typeName .intDec 4 = some [73, 78, 84, 51, 50] ∧ typeName .uintDec 1 = some [85, 73, 78, 84, 56] ∧
    typeName .numHex 4 = some [72, 69, 88, 51, 50] ∧ typeName .bufHex 7 = some [72, 69, 88, 66, 85, 70] ∧
    typeName .bufString 9 = some [83, 84, 82, 73, 78, 71] ∧ typeName .intDec 3 = none ∧ typeName .uintDec 8 = none := by
  decide

/-- whether the text fits decides between output and failure: never a truncated line -/
theorem C19_fits_or_fails (D : Desc) (f : Fsm) (s : St) (xs : List (List Byte)) (hp : s.pos f ≤ D.capOf f) (hne : xs ≠ []) :
    (printAll D s f xs).2 = true ↔ (xs.flatten).length < D.capOf f - s.pos f := by
  obtain ⟨x, r, rfl⟩ := List.exists_cons_of_ne_nil hne
  exact printAll_ok_iff D f r x s

/-- a TEST text that does not fit ends in ERROR -/
theorem C19_test_overflow_error (D : Desc) (s : St)
    (hfail : (formatInfoType D ((s.chkUb s.cmd.isSome).chkUb (decide (s.index < (D.cmdD s.cmd).varNum))) .cmd
      ((D.cmdD s.cmd).varAt s.index)).2 = false) :
    (formatTestArgs D s .cmd).1.state = .flushWait ∧ (formatTestArgs D s .cmd).1.writeStateAfter = .reset ∧
    tr .ack (formatTestArgs D s .cmd).1.log = tr .ack s.log ++ [.ack false] := by
  simp [formatTestArgs, St.cmdOf, St.idx, hfail, ackError_spec, cls]

theorem printCmdForm_spec (D : Desc) (s : St) (avail : Bool) (suffix : List Byte) (next : CmdType) :
    (avail = false → printCmdForm D s avail suffix next = { s with cmdType := next }) ∧
    (avail = true → (printCmdForm D s avail suffix next).state = .flushWait) := by
  constructor <;> intro h <;> simp only [printCmdForm, h, Bool.false_eq_true, if_false, if_true]
  split <;> simp

/-- the list visits a command's forms RUN, READ, WRITE, TEST in this order and prints each form
exactly under its availability condition -/
theorem C19_list_run (D : Desc) (s : St) (hi : s.index < D.commandsNum) (ht : s.cmdType = .run) :
    let c := D.cmdD (some s.index)
    (c.hasRun = false → (printCmdList D s).cmdType = .read ∧ (printCmdList D s).buf = s.buf ∧ (printCmdList D s).state = s.state) ∧
    (c.hasRun = true → (printCmdList D s).state = .flushWait) := by
  simp only [printCmdList, ht, St.chkUb, hi, decide_true, if_true]
  exact ⟨fun h => by rw [(printCmdForm_spec D _ _ _ _).1 h]; exact ⟨rfl, rfl, rfl⟩, (printCmdForm_spec D _ _ _ _).2⟩

theorem C19_list_write (D : Desc) (s : St) (hi : s.index < D.commandsNum) (ht : s.cmdType = .write) :
    let c := D.cmdD (some s.index)
    ((c.hasWrite || varsAccessible c .wo) = false → (printCmdList D s).cmdType = .test ∧ (printCmdList D s).buf = s.buf) ∧
    ((c.hasWrite || varsAccessible c .wo) = true → (printCmdList D s).state = .flushWait) := by
  simp only [printCmdList, ht, St.chkUb, hi, decide_true, if_true]
  exact ⟨fun h => by rw [(printCmdForm_spec D _ _ _ _).1 h]; exact ⟨rfl, rfl⟩, (printCmdForm_spec D _ _ _ _).2⟩

theorem C19_list_test (D : Desc) (s : St) (hi : s.index < D.commandsNum) (ht : s.cmdType = .test) :
    let c := D.cmdD (some s.index)
    ((c.hasTest || (c.vars.isSome && decide (c.varNum > 0))) = false → (printCmdList D s).cmdType = .total ∧ (printCmdList D s).buf = s.buf) ∧
    ((c.hasTest || (c.vars.isSome && decide (c.varNum > 0))) = true → (printCmdList D s).state = .flushWait) := by
  simp only [printCmdList, ht, St.chkUb, hi, decide_true, if_true]
  exact ⟨fun h => by rw [(printCmdForm_spec D _ _ _ _).1 h]; exact ⟨rfl, rfl⟩, (printCmdForm_spec D _ _ _ _).2⟩

/-- the dispatcher runs the run handler iff there is one (and the command is not test-only) -/
theorem C19_dispatch_run (D : Desc) (s : St) (ht : s.cmdType = .run) (ho : (D.cmdD s.cmd).onlyTest = false) :
    ((D.cmdD s.cmd).hasRun = true → (commandFound D s).1.state = .runLoop) ∧
    ((D.cmdD s.cmd).hasRun = false → (commandFound D s).1.state = .flushWait) := by
  constructor <;> intro h <;> simp [commandFound, ht, ho, h]

/-- the dispatcher accepts a WRITE iff there is a write handler or a writable variable -/
theorem C19_dispatch_write (D : Desc) (s : St) (i : SvcIn) (hs : s.state = .parseCommandArgs) (hrd : i.rd = some 10)
    (ho : (D.cmdD s.cmd).onlyTest = false) :
    (((D.cmdD s.cmd).hasWrite || varsAccessible (D.cmdD s.cmd) .wo) = false →
      tr .ack (commandService D s i).1.log = tr .ack s.log ++ [.ack false]) ∧
    (varsAccessible (D.cmdD s.cmd) .wo = false → (D.cmdD s.cmd).hasWrite = true →
      (commandService D s i).1.state = .writeLoop) := by
  constructor
  · intro h
    simp at h
    simp [commandService, hs, parseCommandArgs, readCmdChar, hrd, ho, h.1, h.2, ackError_spec, cls]
  · intro h1 h2
    simp [commandService, hs, parseCommandArgs, readCmdChar, hrd, ho, h1, h2]

/-- `=?` is a TEST request iff the command has a test handler or variables (and is not implicit-write) -/
theorem C19_dispatch_test (D : Desc) (s : St) (i : SvcIn) (hs : s.state = .parseCommandArgs) (hrd : i.rd = some 63)
    (hl : s.length = 0) :
    let c := D.cmdD s.cmd
    ((c.hasTest || (c.vars.isSome && decide (c.varNum > 0))) = true → c.implicitWrite = false →
      (commandService D s i).1.state = .waitTestAck ∧ (commandService D s i).1.cmdType = .test) := by
  intro c h1 h2
  have r := C02_suffix_test D s i hs hrd hl h1 h2
  exact ⟨r.1, r.2.1⟩

/-- nothing is printed for a disabled command or a command of a disabled group -/
theorem C19_list_skips_disabled (D : Desc) (s : St) (hi : s.index < D.commandsNum) (ht : s.cmdType = .none)
    (hd : disabledByIndex D.groups s.index = true) :
    ((printCmdList D s).index = s.index + 1 ∨ (printCmdList D s).state = .flushWait) ∧
    tr .wrC (printCmdList D s).log = tr .wrC s.log ∧ (printCmdList D s).buf = s.buf ∨ (printCmdList D s).state = .flushWait := by
  simp [printCmdList, ht, hd, cmdListNextCmd, St.chkUb, hi]
  (repeat' split) <;> simp

/-- the list advances through the table in registration order: `index` only ever grows by one -/
theorem C19_list_order (D : Desc) (s : St) : (cmdListNextCmd D s).1.index = s.index + 1 := by
  simp [cmdListNextCmd]; split <;> simp

end Cat
