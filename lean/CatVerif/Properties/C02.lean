/-
  C02 — The invoked handler is the one selected by name resolution and suffix.

  The statement is decomposed along the parser's phases; every theorem is about the model
  functions that the correspondence check ties to `src/cat.c`, and holds for every table
  (any number of commands and groups, any names, duplicates, enable flags), every typed name and
  every buffer content.

  * alphabet and case folding (`C02_case_fold`, `C02_alphabet`, `C02_read_folds`): all 256 bytes;
  * the 2-bit lanes (`C02_lane_write`): writing one command's match state changes that command's
    and no other's, for every pair of table positions and every stored byte;
  * `C02_init`: after `AT` every enabled entry is a candidate, every disabled one is not;
  * `C02_name_char`: a name character is folded, counted and hands over to the sweep;
    `C02_bad_char`: any other byte (except the suffix characters) sends the line to ERROR;
  * `C02_sweep`: one whole sweep of `update_command` turns "the table reflects `typed`" into "the
    table reflects `typed ++ [ch]`" (`Spec.lane`/`Spec.matchName`: 2 iff the folded name equals
    the typed name, 1 iff the typed name is a proper prefix; `C02_match_full`, `C02_match_partial`);
  * `C02_search`: the search loop ends in COMMAND_FOUND with the entry `Spec.resolve` selects and
    otherwise gives up (→ ERROR); `C02_selected`/`C02_rejected`/`C02_selected_unique` say what
    `Spec.resolve` selects: the first full match in registration order, else the only partial
    match; nothing when there is none or more than one;
  * request type from the suffix alone: `C02_suffix_none`, `C02_suffix_read`, `C02_suffix_write`,
    `C02_suffix_test`, `C02_implicit_write`; the search never changes it (`C02_search`);
  * `C02_dispatch`: COMMAND_FOUND leads to the loop of that type only; `C02_run_invokes`,
    `C02_read_invokes`, `C02_write_invokes`, `C02_test_invokes`: a loop step invokes exactly one
    handler, of its own type, of the selected command; `C02_no_handler_elsewhere`: no other state
    of the command machine invokes a command handler.
  * the phases composed (`Proofs/ResolveLine.lean`; `feed` drives the command machine from an input
    queue, one `cat_service` call at a time, a byte being taken exactly in the reading states):
    `C02_at_prefix` (IDLE, `AT` in either case → every enabled entry a candidate, type RUN),
    `C02_name_phase` (any name, any table: after ≤ |name|·(commandsNum+1) calls the table reflects
    the case-folded name — or the prefix at which an implicit-write command cut it short),
    `C02_line_resolves` (name + LF: after ≤ (|name|+1)·(commandsNum+1) calls the parser is in
    COMMAND_FOUND with exactly the entry `Spec.resolve` selects, type RUN, or has given up; or an
    implicit-write command took the prefix and the request is WRITE), `C02_request_resolves` (the
    same for all three request forms that start a search: LF — RUN, `?` LF — READ, `=` — WRITE with
    the argument text left in the queue), `C02_found_run_invokes`
    (from there the next two calls invoke the run handler of that entry and no other, or answer
    ERROR when it has none).
-/
import CatVerif.Proofs.ResolveLine
namespace Cat
open St

/-- `to_upper` folds exactly a–z -/
theorem C02_case_fold : ∀ b, b < 256 → toUpper b = (if 97 ≤ b ∧ b ≤ 122 then b - 32 else b) := toUpper_table

/-- the name alphabet (after folding) is exactly A–Z 0–9 + # $ @ _ % & -/
theorem C02_alphabet : ∀ b, b < 256 →
    isNameChar b = decide ((65 ≤ b ∧ b ≤ 90) ∨ (48 ≤ b ∧ b ≤ 57) ∨ b = 43 ∨ b = 35 ∨ b = 36 ∨ b = 64 ∨ b = 95 ∨ b = 37 ∨ b = 38) := by
  decide +kernel

/-- outside argument collection every byte read is folded -/
theorem C02_read_folds (s : St) (i : SvcIn) (b : Byte) (h : i.rd = some b) (hs : s.state ≠ .parseCommandArgs) :
    (readCmdChar s i).1.currentChar = toUpper b ∧ (readCmdChar s i).2 = true := by
  unfold readCmdChar; simp [h, St.emit, hs]

theorem C02_lane_write (D : Desc) (s : St) (i j v : Nat) (hv : v < 4) (hi : i / 4 < D.cmdCap) (hl : i / 4 < s.buf.length)
    (hj : disabledByIndex D.groups j = false) :
    laneOf D (setCmdState D s i v) j = if i = j then v else laneOf D s j :=
  laneOf_setCmdState D s i j v hv hi hl hj

theorem C02_init (D : Desc) (s : St) (hcap : D.commandsNum ≤ 4 * D.cmdCap) (hbuf : D.cmdCap ≤ s.buf.length) :
    Lanes D (prepareParseCommand D s) [] ∧ (prepareParseCommand D s).length = 0 ∧
    (prepareParseCommand D s).cmdType = .run ∧ (prepareParseCommand D s).index = 0 :=
  ⟨prepareParseCommand_lanes D s hcap hbuf, by simp [prepareParseCommand]⟩

/-- a name character: folded, counted, and the sweep starts; the table is not touched -/
theorem C02_name_char (D : Desc) (s : St) (i : SvcIn) (b : Byte) (hs : s.state = .parseCommandChar)
    (hr : i.rd = some b) (hn : isNameChar (toUpper b) = true)
    (h1 : toUpper b ≠ 10) (h2 : toUpper b ≠ 13) (h3 : toUpper b ≠ 63) (h4 : toUpper b ≠ 61) :
    let s' := (commandService D s i).1
    s'.state = .updateCommandState ∧ s'.length = s.length + 1 ∧ s'.currentChar = toUpper b ∧
    s'.buf = s.buf ∧ s'.index = s.index ∧ s'.cmdType = s.cmdType :=
  service_name_char D s i b hs hr ⟨hn, h1, h2, h3, h4⟩

/-- a byte that is neither a name character nor one of LF CR ? = ends the name with ERROR state -/
theorem C02_bad_char (D : Desc) (s : St) (i : SvcIn) (b : Byte) (hs : s.state = .parseCommandChar)
    (hr : i.rd = some b) (hn : isNameChar (toUpper b) = false)
    (h1 : toUpper b ≠ 10) (h2 : toUpper b ≠ 13) (h3 : toUpper b ≠ 63) (h4 : toUpper b ≠ 61) :
    (commandService D s i).1.state = .error := by
  unfold commandService parseCommand readCmdChar
  simp [hs, hr, St.emit, h1, h2, h3, h4, hn]

theorem C02_sweep_step (D : Desc) (s : St) (i : SvcIn) (hs : s.state = .updateCommandState) :
    (commandService D s i).1 = (updateCommand D s).1 :=
  service_update D s i hs

/-- one whole sweep (`commandsNum` service steps in UPDATE_COMMAND_STATE) -/
theorem C02_sweep (D : Desc) (typed : List Byte) (ch : Byte) (s : St)
    (hcap : D.commandsNum ≤ 4 * D.cmdCap) (hbuf : D.cmdCap ≤ s.buf.length) (hnum : 0 < D.commandsNum)
    (hlen : s.length = typed.length + 1) (hch : s.currentChar = ch) (hi0 : s.index = 0)
    (h : Lanes D s typed) :
    let s' := updateIter D D.commandsNum s
    Lanes D s' (typed ++ [ch]) ∧ s'.index = 0 ∧ s'.length = s.length ∧
    ((s'.state = .parseCommandChar ∧ s'.cmdType = (updateIter D (D.commandsNum - 1) s).cmdType) ∨
     (s'.state = .searchCommand ∧ s'.cmdType = .write ∧ s'.partialCntr = 0 ∧ s'.cmd = none)) := by
  have ⟨t1, t2, t3, _, t5⟩ := sweep_total D typed ch s hcap hbuf hnum hlen hch hi0 h
  have ⟨_, _, e⟩ := (updateIter_partial D s hcap hbuf hi0 (D.commandsNum - 1) (by omega)).2 (by omega)
  exact ⟨t1, t2, t3, by rw [e]; exact t5⟩

theorem C02_match_full (name typed : List Byte) : Spec.matchName name typed = 2 ↔ name.map toUpper = typed := by
  unfold Spec.matchName
  constructor
  · intro h
    split at h
    · rename_i hp
      split at h
      · rename_i hl
        rw [← hp.2, hl, List.take_of_length_le (by simp)]
      · omega
    · omega
  · rintro rfl
    simp [List.take_of_length_le]

theorem C02_match_partial (name typed : List Byte) :
    Spec.matchName name typed = 1 ↔ typed.length < name.length ∧ (name.map toUpper).take typed.length = typed := by
  unfold Spec.matchName
  constructor
  · intro h
    split at h
    · rename_i hp
      split at h
      · omega
      · exact ⟨by omega, hp.2⟩
    · omega
  · intro ⟨h1, h2⟩
    rw [if_pos ⟨by omega, h2⟩, if_neg (by omega)]

theorem C02_search_step (D : Desc) (s : St) (i : SvcIn) (hs : s.state = .searchCommand) :
    (commandService D s i).1 = (searchCommand D s).1 :=
  service_search D s i hs

theorem C02_search (D : Desc) (typed : List Byte) (s : St) (hnum : 0 < D.commandsNum)
    (hst : s.state = .searchCommand) (hi0 : s.index = 0) (hc0 : s.partialCntr = 0) (hcmd : s.cmd = none)
    (h : Lanes D s typed) :
    let s' := searchIter D D.commandsNum s
    s'.cmdType = s.cmdType ∧ s'.buf = s.buf ∧
    (∀ j, Spec.resolve (Spec.lane D typed) D.commandsNum = some j → s'.state = .commandFound ∧ s'.cmd = some j) ∧
    (Spec.resolve (Spec.lane D typed) D.commandsNum = none → NotFound s') :=
  search_total D typed s hnum hst hi0 hc0 hcmd h

theorem C02_selected (L : Nat → Nat) (n j : Nat) (h : Spec.resolve L n = some j) : Spec.Selected L n j :=
  Spec.resolve_some L n j h
theorem C02_rejected (L : Nat → Nat) (n : Nat) (h : Spec.resolve L n = none) : Spec.Rejected L n :=
  Spec.resolve_none L n h
theorem C02_selected_unique (L : Nat → Nat) (n j j' : Nat) (h : Spec.Selected L n j) (h' : Spec.Selected L n j') : j = j' :=
  Spec.selected_unique L n j j' h h'

/-- giving up is answered with ERROR: COMMAND_NOT_FOUND acknowledges with ERROR at once … -/
theorem C02_not_found_error (D : Desc) (s : St) (i : SvcIn) (hs : s.state = .commandNotFound) :
    (commandService D s i).1 = ackError D s := by
  unfold commandService commandNotFound; simp [hs]

/-- no suffix: LF right after the name starts the search with the type set at `AT` (RUN) -/
theorem C02_suffix_none (D : Desc) (s : St) (i : SvcIn) (hs : s.state = .parseCommandChar)
    (hr : i.rd = some 10) (hl : s.length ≠ 0) :
    let s' := (commandService D s i).1
    s'.state = .searchCommand ∧ s'.cmdType = s.cmdType ∧ s'.index = 0 ∧ s'.partialCntr = 0 ∧
    s'.cmd = none ∧ s'.buf = s.buf :=
  service_lf D s i hs hr hl

/-- `?` makes it a READ request, which only LF (after optional CRs) may follow -/
theorem C02_suffix_read (D : Desc) (s : St) (i : SvcIn) (hs : s.state = .parseCommandChar)
    (hr : i.rd = some 63) (hl : s.length ≠ 0) :
    let s' := (commandService D s i).1
    s'.state = .waitReadAck ∧ s'.cmdType = .read ∧ s'.buf = s.buf :=
  service_query D s i hs hr hl

theorem C02_suffix_read_ack (D : Desc) (s : St) (i : SvcIn) (b : Byte) (hs : s.state = .waitReadAck) (hr : i.rd = some b) :
    let s' := (commandService D s i).1
    s'.cmdType = s.cmdType ∧ s'.buf = s.buf ∧
    (toUpper b = 10 → s'.state = .searchCommand ∧ s'.index = 0 ∧ s'.partialCntr = 0 ∧ s'.cmd = none) ∧
    (toUpper b ≠ 10 → toUpper b ≠ 13 → s'.state = .error) :=
  service_read_ack D s i b hs hr

/-- `=` makes it a WRITE request and starts the search -/
theorem C02_suffix_write (D : Desc) (s : St) (i : SvcIn) (hs : s.state = .parseCommandChar)
    (hr : i.rd = some 61) (hl : s.length ≠ 0) :
    let s' := (commandService D s i).1
    s'.state = .searchCommand ∧ s'.cmdType = .write ∧ s'.index = 0 ∧ s'.partialCntr = 0 ∧
    s'.cmd = none ∧ s'.buf = s.buf :=
  service_eq D s i hs hr hl

/-- `=?`: a `?` as the very first argument byte of a command that can answer TEST (a test handler
or variables) and is not implicit-write makes it a TEST request -/
theorem C02_suffix_test (D : Desc) (s : St) (i : SvcIn) (hs : s.state = .parseCommandArgs)
    (hr : i.rd = some 63) (hl : s.length = 0)
    (hcan : ((D.cmdD s.cmd).hasTest || ((D.cmdD s.cmd).vars.isSome && (D.cmdD s.cmd).varNum > 0)) = true)
    (himp : (D.cmdD s.cmd).implicitWrite = false) :
    let s' := (commandService D s i).1
    s'.state = .waitTestAck ∧ s'.cmdType = .test ∧ s'.cmd = s.cmd := by
  unfold commandService parseCommandArgs readCmdChar
  simp at hcan
  rcases hcan with hcan | hcan <;> simp [hs, hr, St.emit, hl, himp, hcan]

/-- implicit WRITE: decided by the sweep, as soon as the typed name equals an implicit-write name
(`C02_sweep`, second alternative); arguments then start right after the name. -/
theorem C02_implicit_write (D : Desc) (s : St) (h : s.index + 1 = D.commandsNum) :
    ((updateCommand D s).1.state = .parseCommandChar ∧ (updateCommand D s).1.cmdType = s.cmdType) ∨
    ((updateCommand D s).1.state = .searchCommand ∧ (updateCommand D s).1.cmdType = .write ∧
     (updateCommand D s).1.partialCntr = 0 ∧ (updateCommand D s).1.cmd = none) :=
  (updateCommand_last D s h).2

theorem C02_dispatch (D : Desc) (s : St) (i : SvcIn) (hs : s.state = .commandFound) :
    let s' := (commandService D s i).1
    (s.cmdType = .run → s' = ackError D (s.chkUb s.cmd.isSome) ∨ (s'.state = .runLoop ∧ s'.cmd = s.cmd)) ∧
    (s.cmdType = .read → s' = ackError D (s.chkUb s.cmd.isSome) ∨ s' = startFormatRead D (s.chkUb s.cmd.isSome) .cmd) ∧
    (s.cmdType = .write → s'.state = .parseCommandArgs ∧ s'.cmd = s.cmd ∧ s'.cmdType = .write ∧ s'.length = 0) ∧
    (s.cmdType = .test ∨ s.cmdType = .none → s' = ackError D (s.chkUb s.cmd.isSome)) := by
  unfold commandService commandFound
  simp only [hs]
  refine ⟨?_, ?_, ?_, ?_⟩
  · intro h
    have : (s.chkUb s.cmd.isSome).cmdType = .run := by simp [h]
    simp only [this]; (repeat' split) <;> first | (left; rfl) | (right; exact ⟨rfl, by simp⟩)
  · intro h
    have : (s.chkUb s.cmd.isSome).cmdType = .read := by simp [h]
    simp only [this]; (repeat' split) <;> first | (left; rfl) | (right; rfl)
  · intro h; simp [h, setB]; split <;> simp
  · intro h; rcases h with h | h <;> simp [h]

/-- a RUN step invokes the run handler of the selected command, and no other handler -/
theorem C02_run_invokes (D : Desc) (s : St) (i : SvcIn) (hs : s.state = .runLoop) :
    tr .cbC (commandService D s i).1.log =
      tr .cbC s.log ++ [.handler .cmd .run (s.cmd.getD 0) [] true 0 0 i.hc.ret] :=
  machineStep_invokes (f := .cmd) (k := .run) i (by simp [St.calling, hs, loopKind])

theorem C02_write_invokes (D : Desc) (s : St) (i : SvcIn) (hs : s.state = .writeLoop) :
    tr .cbC (commandService D s i).1.log =
      tr .cbC s.log ++ [.handler .cmd .write (s.cmd.getD 0) ((region D s .cmd 0).take s.length)
        (getB D s .cmd s.length == 0 && s.length < D.cmdCap) s.length s.index i.hc.ret] :=
  machineStep_invokes (f := .cmd) (k := .write) i (by simp [St.calling, hs, loopKind])

theorem C02_read_invokes (D : Desc) (s : St) (i : SvcIn) (hs : s.state = .readLoop) :
    tr .cbC (commandService D s i).1.log =
      tr .cbC s.log ++ [.handler .cmd .read (s.cmd.getD 0) (cstr D s .cmd).1 (cstr D s .cmd).2 s.position D.cmdCap i.hc.ret] :=
  machineStep_invokes (f := .cmd) (k := .read) i (by simp [St.calling, hs, loopKind])

theorem C02_test_invokes (D : Desc) (s : St) (i : SvcIn) (hs : s.state = .testLoop) :
    tr .cbC (commandService D s i).1.log =
      tr .cbC s.log ++ [.handler .cmd .test (s.cmd.getD 0) (cstr D s .cmd).1 (cstr D s .cmd).2 s.position D.cmdCap i.hc.ret] :=
  machineStep_invokes (f := .cmd) (k := .test) i (by simp [St.calling, hs, loopKind])

/-- no other state of the command machine invokes a command handler (variable callbacks are made
by PARSE_WRITE_ARGS and FORMAT_READ_ARGS only, for the selected command's variables) -/
theorem C02_no_handler_elsewhere (D : Desc) (s : St) (i : SvcIn)
    (h1 : s.state ≠ .runLoop) (h2 : s.state ≠ .readLoop) (h3 : s.state ≠ .writeLoop) (h4 : s.state ≠ .testLoop)
    (h5 : s.state ≠ .parseWriteArgs) (h6 : s.state ≠ .formatReadArgs) :
    tr .cbC (commandService D s i).1.log = tr .cbC s.log := by
  refine commandService_logs .cbC D s i ?_ (.of_ne (by decide) (by decide)) (.of_ne (by decide) (by decide))
  revert h1 h2 h3 h4 h5 h6
  cases s.state <;> simp [cmdLogs]

/-- a table with `TEST`, `TE`, a disabled `T2` and `+X`: typing `TE` selects entry 1 (exact) although
entry 0 is a longer candidate; typing `T` is ambiguous; typing `+` selects the only candidate -/
example :
    let names : List (List Byte) := [[84, 69, 83, 84], [84, 69], [43, 88]]
    let L := fun typed j => Spec.matchName (names.getD j []) typed
    Spec.resolve (L [84, 69]) 3 = some 1 ∧ Spec.resolve (L [84]) 3 = none ∧
    Spec.resolve (L [43]) 3 = some 2 ∧ Spec.resolve (L [90]) 3 = none := by decide

theorem C02_at_prefix (D : Desc) (tmpl : SvcIn) (s : St) (a t : Byte) (rest : List Byte)
    (hs : s.state = .idle) (ha : toUpper a = 65) (ht : toUpper t = 84)
    (hcap : D.commandsNum ≤ 4 * D.cmdCap) (hbuf : D.cmdCap ≤ s.buf.length) :
    let s' := (feed D tmpl 2 s (a :: t :: rest)).1
    (feed D tmpl 2 s (a :: t :: rest)).2 = rest ∧ s'.state = .parseCommandChar ∧ Lanes D s' [] ∧
    s'.length = 0 ∧ s'.index = 0 ∧ s'.cmdType = .run ∧ s'.buf.length = s.buf.length :=
  feed_at D tmpl s a t rest hs ha ht hcap hbuf

theorem C02_name_phase (D : Desc) (tmpl : SvcIn) (s0 : St)
    (hcap : D.commandsNum ≤ 4 * D.cmdCap) (hbuf : D.cmdCap ≤ s0.buf.length) (hnum : 0 < D.commandsNum)
    (hst : s0.state = .parseCommandChar) (hl0 : Lanes D s0 []) (hlen : s0.length = 0) (hidx : s0.index = 0)
    (hct : s0.cmdType = .run) (cs : List Byte) (hall : ∀ b ∈ cs, NameCh b) (rest : List Byte) :
    ∃ (n : Nat) (p q : List Byte) (s' : St), n ≤ cs.length * (D.commandsNum + 1) ∧ cs = p ++ q ∧
      feed D tmpl n s0 (cs ++ rest) = (s', q ++ rest) ∧ NameAt D s0 s' p ∧
      ((q = [] ∧ s'.state = .parseCommandChar ∧ s'.cmdType = .run) ∨
       (p ≠ [] ∧ s'.state = .searchCommand ∧ s'.cmdType = .write ∧ s'.partialCntr = 0 ∧ s'.cmd = none)) :=
  feed_name D tmpl s0 hcap hbuf hnum hst hl0 hlen hidx hct cs hall rest

/-- **Name resolution, end to end**: a name followed by LF, fed one call at a time from the state
after `AT`, ends in COMMAND_FOUND with the entry `Spec.resolve` selects for the case-folded name
(`C02_selected`: the first full match, else the only partial match) as a RUN request, or gives up
when there is none; unless an implicit-write command equals a prefix `p` of the name — then the
same holds for `p` as a WRITE request and the rest of the line is its argument text. -/
theorem C02_line_resolves (D : Desc) (tmpl : SvcIn) (s0 : St)
    (hcap : D.commandsNum ≤ 4 * D.cmdCap) (hbuf : D.cmdCap ≤ s0.buf.length) (hnum : 0 < D.commandsNum)
    (hst : s0.state = .parseCommandChar) (hl0 : Lanes D s0 []) (hlen : s0.length = 0) (hidx : s0.index = 0)
    (hct : s0.cmdType = .run)
    (cs : List Byte) (hne : cs ≠ []) (hall : ∀ b ∈ cs, NameCh b) (rest : List Byte) :
    ∃ (n : Nat) (p q : List Byte) (s' : St), n ≤ (cs.length + 1) * (D.commandsNum + 1) ∧ cs = p ++ q ∧ p ≠ [] ∧
      ((q = [] ∧ feed D tmpl n s0 (cs ++ 10 :: rest) = (s', rest) ∧ s'.cmdType = .run) ∨
       (feed D tmpl n s0 (cs ++ 10 :: rest) = (s', q ++ 10 :: rest) ∧ s'.cmdType = .write)) ∧
      (∀ j, Spec.resolve (Spec.lane D (p.map toUpper)) D.commandsNum = some j →
          s'.state = .commandFound ∧ s'.cmd = some j) ∧
      (Spec.resolve (Spec.lane D (p.map toUpper)) D.commandsNum = none → NotFound s') :=
  feed_line D tmpl s0 hcap hbuf hnum hst hl0 hlen hidx hct cs hne hall rest

/-- **Name resolution, end to end, for the three request forms that start a search**: name + LF
(RUN), name + `?` + LF (READ), name + `=` (WRITE, the argument text follows). -/
theorem C02_request_resolves (D : Desc) (tmpl : SvcIn) (s0 : St)
    (hcap : D.commandsNum ≤ 4 * D.cmdCap) (hbuf : D.cmdCap ≤ s0.buf.length) (hnum : 0 < D.commandsNum)
    (hst : s0.state = .parseCommandChar) (hl0 : Lanes D s0 []) (hlen : s0.length = 0) (hidx : s0.index = 0)
    (hct : s0.cmdType = .run)
    (cs : List Byte) (hne : cs ≠ []) (hall : ∀ b ∈ cs, NameCh b) (sfx : List Byte) (typ : CmdType) (hsfx : Suffix sfx typ)
    (rest : List Byte) :
    ∃ (n : Nat) (p q : List Byte) (s' : St), n ≤ (cs.length + 1) * (D.commandsNum + 1) + 1 ∧ cs = p ++ q ∧ p ≠ [] ∧
      ((q = [] ∧ feed D tmpl n s0 (cs ++ (sfx ++ rest)) = (s', rest) ∧ s'.cmdType = typ) ∨
       (feed D tmpl n s0 (cs ++ (sfx ++ rest)) = (s', q ++ (sfx ++ rest)) ∧ s'.cmdType = .write)) ∧
      (∀ j, Spec.resolve (Spec.lane D (p.map toUpper)) D.commandsNum = some j →
          s'.state = .commandFound ∧ s'.cmd = some j) ∧
      (Spec.resolve (Spec.lane D (p.map toUpper)) D.commandsNum = none → NotFound s') :=
  feed_request D tmpl s0 hcap hbuf hnum hst hl0 hlen hidx hct cs hne hall sfx typ hsfx rest

/-- non-vacuity: the three suffixes -/
example : Suffix [10] .run ∧ Suffix [63, 10] .read ∧ Suffix [61] .write :=
  ⟨Or.inl ⟨rfl, rfl⟩, Or.inr (Or.inl ⟨rfl, rfl⟩), Or.inr (Or.inr ⟨rfl, rfl⟩)⟩

/-- from COMMAND_FOUND as a RUN request for entry `j`: the next call answers ERROR (entry `j` has no
run handler) or enters the run loop, whose first call invokes the run handler of `j` and nothing else -/
theorem C02_found_run_invokes (D : Desc) (s : St) (i i' : SvcIn) (j : Nat) (hs : s.state = .commandFound)
    (ht : s.cmdType = .run) (hj : s.cmd = some j) :
    let s1 := (commandService D s i).1
    s1 = ackError D (s.chkUb s.cmd.isSome) ∨
    (s1.state = .runLoop ∧
      tr .cbC (commandService D s1 i').1.log = tr .cbC s1.log ++ [.handler .cmd .run j [] true 0 0 i'.hc.ret]) := by
  rcases (C02_dispatch D s i hs).1 ht with h | ⟨h1, h2⟩
  · exact .inl h
  · have := C02_run_invokes D _ i' h1
    rw [h2, hj] at this
    exact .inr ⟨h1, this⟩

/-- **A whole line from IDLE**: `AT`, a name, LF. -/
theorem C02_from_idle (D : Desc) (tmpl : SvcIn) (s : St) (a t : Byte)
    (hs : s.state = .idle) (ha : toUpper a = 65) (ht : toUpper t = 84)
    (hcap : D.commandsNum ≤ 4 * D.cmdCap) (hbuf : D.cmdCap ≤ s.buf.length) (hnum : 0 < D.commandsNum)
    (cs : List Byte) (hne : cs ≠ []) (hall : ∀ b ∈ cs, NameCh b) (rest : List Byte) :
    ∃ (n : Nat) (p q : List Byte) (s' : St), n ≤ 2 + (cs.length + 1) * (D.commandsNum + 1) ∧ cs = p ++ q ∧ p ≠ [] ∧
      ((q = [] ∧ feed D tmpl n s (a :: t :: (cs ++ 10 :: rest)) = (s', rest) ∧ s'.cmdType = .run) ∨
       (feed D tmpl n s (a :: t :: (cs ++ 10 :: rest)) = (s', q ++ 10 :: rest) ∧ s'.cmdType = .write)) ∧
      (∀ j, Spec.resolve (Spec.lane D (p.map toUpper)) D.commandsNum = some j →
          s'.state = .commandFound ∧ s'.cmd = some j) ∧
      (Spec.resolve (Spec.lane D (p.map toUpper)) D.commandsNum = none → NotFound s') := by
  have ⟨a0, a1, a2, a3, a4, a5, a6⟩ := feed_at D tmpl s a t (cs ++ 10 :: rest) hs ha ht hcap hbuf
  obtain ⟨n, p, q, s', hn, hpq, hp, hcase, hres, hnone⟩ :=
    feed_line D tmpl _ hcap (by rw [a6]; exact hbuf) hnum a1 a2 a3 a4 a5 cs hne hall rest
  refine ⟨2 + n, p, q, s', by omega, hpq, hp, ?_, hres, hnone⟩
  rw [feed_add, a0]
  exact hcase

/-- non-vacuity: the initial state is IDLE with a command buffer of the declared size -/
example (D : Desc) (m : List (List Byte)) : (init D (List.replicate D.cmdCap 0) [] m).state = .idle ∧
    D.cmdCap ≤ (init D (List.replicate D.cmdCap 0) [] m).buf.length := by simp [init]

/-- non-vacuity: `A`..`Z`, digits and `+` are name characters -/
example : NameCh 65 ∧ NameCh 122 ∧ NameCh 43 ∧ NameCh 48 := by unfold NameCh; decide

/-- **the `=?` form, composed**: once a name followed by `=` has resolved to entry `j` as a WRITE request
(`C02_request_resolves`), the bytes `?` and LF make three calls — one to enter argument collection, one that reads the `?`
as the very first argument byte and turns the request into TEST (possible because entry `j` has a test handler or
variables and is not an implicit-write command), one that reads the LF — after which the TEST response of entry `j` is
started and nothing of the line is left in the input -/
theorem C02_test_form (D : Desc) (tmpl : SvcIn) (s : St) (j : Nat) (rest : List Byte)
    (hs : s.state = .commandFound) (ht : s.cmdType = .write) (hj : s.cmd = some j)
    (hcan : ((D.cmdD (some j)).hasTest || ((D.cmdD (some j)).vars.isSome && (D.cmdD (some j)).varNum > 0)) = true)
    (himp : (D.cmdD (some j)).implicitWrite = false) :
    ∃ s2 : St, s2.cmd = some j ∧ s2.cmdType = .test ∧ s2.currentChar = 10 ∧
      feed D tmpl 3 s (63 :: 10 :: rest) = (startFormatTest D s2 .cmd, rest) := by
  have d := (C02_dispatch D s { tmpl with rd := some 63 } hs).2.2.1 ht
  generalize hs1 : (commandService D s { tmpl with rd := some 63 }).1 = s1 at d
  obtain ⟨d1, d2, d3, d4⟩ := d
  have t := C02_suffix_test D s1 { tmpl with rd := some 63 } d1 rfl d4 (by rw [d2, hj]; exact hcan) (by rw [d2, hj]; exact himp)
  generalize hs2 : (commandService D s1 { tmpl with rd := some 63 }).1 = s2 at t
  obtain ⟨t1, t2, t3⟩ := t
  refine ⟨{ s2 with currentChar := 10, state := .waitTestAck, log := s2.log ++ [.rd (some 10)] }, ?_, ?_, rfl, ?_⟩
  · simp [t3, d2, hj]
  · simp [t2]
  · have r0 : ¬ Reading s.state := by rw [hs]; decide
    have r1 : Reading s1.state := by rw [d1]; decide
    have r2 : Reading s2.state := by rw [t1]; decide
    simp only [feed, r0, r1, r2, if_true, if_false, List.head?_cons, List.tail_cons, hs1, hs2]
    congr 1
    unfold commandService waitTestAcknowledge readCmdChar
    have e10 : toUpper 10 = 10 := by decide
    simp [t1, St.emit, e10]

end Cat
