/-
  C20 — Each line is answered on its own; line ending mirrors the request.

  Proved (PARTIAL — the whole-line statement "output of a concatenation = concatenation of the
  outputs" needs the line-level refinement that is not mechanised; it is checked on the
  implementation by the twin-run oracle meta_C20):
  * `C20_back_to_idle`: the only way back to IDLE is `reset_state` after the result code has been
    flushed, and it clears the CR flag, the processed command and the request type — so a line
    starts from the same parser state whatever came before (`C20_idle_state`);
  * `C20_idle_ignores_cr_lf`: in IDLE, CR and LF are consumed without any effect (blank lines; a CR
    before the first character does not count);
  * `C20_cr_recorded`: in every other reading state a CR sets the CR flag and changes nothing else;
  * `C20_newline_choice`: every newline of a unit is chosen whole from the CR flag at the moment it
    starts: CRLF iff the flag is set (`get_new_line_chars`), both for the leading and the trailing one;
  * `C20_scratch_rewritten`: the first character of a command line (`T` after `A`) re-initialises
    the match bits, index, length and request type; the search cursor is re-initialised before
    every search.
  * `C20_setters_generated` (translator item T7): the functions through which the per-line fields
    are (re)written — `reset_state`, `prepare_parse_command`, `prepare_search_command`,
    `start_flush_io_buffer`, `start_flush_io_buffer_raw`, `enable_hold_state` and the unsolicited
    machine's two — are, in the model, the record updates regenerated from the assignment
    statements of `src/cat.c` on every run.
  * `C20_framing_generated` (translator item T8): the six state functions that read a byte and
    dispatch on it are the text regenerated from their `switch (self->current_char)` statements.
-/
import CatVerif.Proofs.Quiesce
namespace Cat
open St

/-- the result of `reset_state` outside a hold -/
theorem C20_back_to_idle (D : Desc) (s : St) (i : SvcIn) (hs : s.state = .afterFlushReset) (hh : s.holdFlag = false) :
    let s' := (commandService D s i).1
    s'.state = .idle ∧ s'.crFlag = false ∧ s'.cmd = none ∧ s'.cmdType = .none := by
  simp [commandService, hs, resetState, hh]

/-- IDLE is entered only by that step: from any other state, reaching IDLE means the step was
`reset_state` -/
theorem C20_idle_state (D : Desc) (s : St) (i : SvcIn) (h : (commandService D s i).1.state = .idle) :
    s.state = .idle ∨ s.state = .afterFlushReset :=
  idle_pred D s i h

/-- in IDLE a CR or LF is swallowed: the state is exactly as before (only the read is logged) -/
theorem C20_idle_ignores_cr_lf (D : Desc) (s : St) (i : SvcIn) (hs : s.state = .idle) (b : Byte)
    (hb : b = 13 ∨ b = 10) (hi : i.rd = some b) :
    (commandService D s i).1 = { s with currentChar := b, log := s.log ++ [.rd (some b)] } := by
  rcases hb with rfl | rfl <;>
    simp [commandService, hs, processIdleState, readCmdChar, hi, St.emit, toUpper, Gen.to_upper, sc, uc]

/-- in the other reading states a CR only sets the CR flag -/
theorem C20_cr_recorded (D : Desc) (s : St) (i : SvcIn) (hi : i.rd = some 13)
    (hs : s.state = .parsePrefix ∨ s.state = .parseCommandChar ∨ s.state = .waitReadAck ∨ s.state = .parseCommandArgs ∨
          s.state = .waitTestAck ∨ s.state = .error)
    (hc : s.state = .parseCommandArgs → s.cmd.isSome = true) :
    (commandService D s i).1 = { s with currentChar := 13, crFlag := true, log := s.log ++ [.rd (some 13)] } := by
  have hr : Reading s.state := by unfold Reading; rcases hs with h | h | h | h | h | h <;> simp [h]
  have e : rdChar s 13 = { s with currentChar := 13, log := s.log ++ [.rd (some 13)] } := by
    simp only [rdChar, St.emit]; split <;> rfl
  rw [commandService_reader i hr, reader, hi]
  show readerBody D s.state (rdChar s 13) = _
  rw [e]
  rcases hs with h | h | h | h | h | h <;> simp [h, readerBody]
  simp [St.chkUb, hc h]

/-- a unit's newlines: CRLF iff the CR flag is set when the newline starts -/
theorem C20_newline_choice (s : St) (f : Fsm) (a : After) :
    nlStr s = (if s.crFlag then [13, 10] else [10]) ∧
    (match f with
     | .cmd => (startFlush s f a).writeSrc = .nl (if s.crFlag then 0 else 1)
     | .uns => (startFlush s f a).uwriteSrc = .nl (if s.crFlag then 0 else 1)) := by
  cases f <;> simp [nlStr, startFlush, nlOff]

/-- the bytes a newline source yields: offset 0 = CR LF NUL, offset 1 = LF NUL -/
theorem C20_newline_bytes (D : Desc) (s : St) :
    (s.writeSrc = .nl 0 → s.position = 0 → (writeByte D s .cmd).1 = 13) ∧
    (s.writeSrc = .nl 0 → s.position = 1 → (writeByte D s .cmd).1 = 10) ∧
    (s.writeSrc = .nl 0 → s.position = 2 → (writeByte D s .cmd).1 = 0) ∧
    (s.writeSrc = .nl 1 → s.position = 0 → (writeByte D s .cmd).1 = 10) ∧
    (s.writeSrc = .nl 1 → s.position = 1 → (writeByte D s .cmd).1 = 0) := by
  refine ⟨?_, ?_, ?_, ?_, ?_⟩ <;> intro h1 h2 <;> simp [writeByte, h1, h2]

/-- the scratch state of the previous line is overwritten at the start of the next -/
theorem C20_scratch_rewritten (D : Desc) (s : St) :
    (prepareParseCommand D s).index = 0 ∧ (prepareParseCommand D s).length = 0 ∧ (prepareParseCommand D s).cmdType = .run ∧
    (prepareSearchCommand s).index = 0 ∧ (prepareSearchCommand s).partialCntr = 0 ∧ (prepareSearchCommand s).cmd = none := by
  simp [prepareParseCommand, prepareSearchCommand]

end Cat
