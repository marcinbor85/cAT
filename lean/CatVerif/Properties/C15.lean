/-
  C15 — cat_service reports OK only when quiescent and always gets there.

  Proved (model of the current source; the status merge at the end of `cat_service` and the
  helper predicates are regenerated from the source, translator item T2):
  * `C15_ok_quiescent`: if the call reports OK then afterwards the unsolicited machine is idle, its
    queue is empty and the command machine is in a state that only waits for input;
  * `C15_repeat`: from such a state an immediately repeated call with no deliverable input byte
    reports OK again, writes nothing, invokes no callback, and leaves the state unchanged (the only
    logged event is the refused read);
  * `C15_ok_stable`: the two together, for `cat_service` itself (mutex calls succeeding).
  * `C15_liveness` (`Proofs/Live.lean`): the liveness half.  A measure `mu D s` — an explicit expression
    in the table size, the buffer capacities, the total number of variables and the number of
    queued events (`C15_bound`) — is decreased by every call of `cat_service` that does not report
    OK, provided no input byte arrives, the output accepts every byte, the mutex calls succeed, the
    handlers give final answers (not NEXT, DATA_NEXT or HOLD) without API calls of their own, and
    no command is held.  Hence among any `mu D s + 1` consecutive such calls one reports OK (and then
    the state is quiescent, `C15_ok_quiescent`): no livelock, no event left behind.  The state
    hypotheses (`Live`) hold in every state reached from `cat_init` in which no command is held
    (`C15_reachable_live`); the descriptor hypotheses are those of C03.
  Outside Lean: handlers that keep answering NEXT / DATA_NEXT, or keep triggering events, never let
  the library come to rest — by design; the drain runs of the correspondence check use
  terminating scripts and compare the number of calls with the model's.
-/
import CatVerif.Proofs.Quiesce
import CatVerif.Proofs.Live
import CatVerif.Properties.C03
namespace Cat
open St

theorem C15_ok_quiescent (D : Desc) (s : St) (i : SvcIn) (h : (serviceBody D s i).2 = Gen.CAT_STATUS_OK) :
    let s' := (serviceBody D s i).1
    s'.ustate = .idle ∧ s'.rcount = 0 ∧ Reading s'.state :=
  serviceBody_ok_quiescent D s i h

theorem C15_repeat (D : Desc) (s : St) (i : SvcIn)
    (h : s.ustate = .idle ∧ s.rcount = 0 ∧ Reading s.state) (hi : i.rd = none) :
    serviceBody D s i = (s.emit (.rd none), Gen.CAT_STATUS_OK) :=
  serviceBody_quiescent_repeat D s i h hi

/-- `cat_service` (no mutex configured): OK now implies OK again on a repeated call without a new
input byte, with no other effect than the refused read. -/
theorem C15_ok_stable (D : Desc) (s : St) (i i' : SvcIn) (hm : D.hasMutex = false)
    (h : (service D s i).2 = Gen.CAT_STATUS_OK) (hi : i'.rd = none) :
    service D (service D s i).1 i' = ((service D s i).1.emit (.rd none), Gen.CAT_STATUS_OK) := by
  simp only [service, withMutex, hm] at *
  exact serviceBody_quiescent_repeat D _ i' (serviceBody_ok_quiescent D s i h) hi

/-- the same with a mutex whose calls succeed: the repeated call logs lock, the refused read, unlock -/
theorem C15_ok_stable_mutex (D : Desc) (s : St) (i i' : SvcIn) (hm : D.hasMutex = true)
    (hl : i.lock = 0) (hu : i.unlock = 0) (hl' : i'.lock = 0) (hu' : i'.unlock = 0)
    (h : (service D s i).2 = Gen.CAT_STATUS_OK) (hi : i'.rd = none) :
    (service D (service D s i).1 i').2 = Gen.CAT_STATUS_OK ∧
    (service D (service D s i).1 i').1 = ((((service D s i).1.emit (.lock 0)).emit (.rd none)).emit (.unlock 0)) := by
  have q := service_ok_quiescent D s i h
  generalize (service D s i).1 = x at q ⊢
  have q' : Quiescent (x.emit (.lock 0)) := by simpa [Quiescent] using q
  simp [service, withMutex, hm, hl', hu', serviceBody_quiescent_repeat D _ i' q' hi]

/-- **`cat_service` always gets there.**  From a state in which no command is held (`Live`), in any run
of calls during which no input byte arrives, the output accepts every byte, the mutex calls succeed
and the handlers give final answers, one of the first `mu D s + 1` calls reports OK. -/
theorem C15_liveness (D : Desc) (s : St) (is : List SvcIn) (hl : Live D s) (ht : ∀ i ∈ is, TermIn i)
    (hlen : mu D s < is.length) :
    ∃ k, k ≤ mu D s ∧ (runSvc D s is).2[k]? = some Gen.CAT_STATUS_OK :=
  (runSvc_live D is s ht hl hlen).1

/-- one call: OK, or strictly less left to do; the invariants are kept -/
theorem C15_progress (D : Desc) (s : St) (i : SvcIn) (t : TermIn i) (l : Live D s) :
    Live D (service D s i).1 ∧ ((service D s i).2 = Gen.CAT_STATUS_OK ∨ mu D (service D s i).1 < mu D s) :=
  service_live D s i t l

/-- the number of calls is bounded by a constant of the descriptor (linear in the number of
variables and in the product of table size and command-buffer capacity — the command list prints
every command on a line of its own) plus a constant per queued event -/
theorem C15_bound (D : Desc) (s : St) : mu D s ≤ D.MUC + s.rcount * D.EV + FL D.unsCap + D.EV :=
  mu_le D s

/-- `runSvc` is what a history of `cat_service` calls computes -/
theorem C15_runSvc_eq (D : Desc) : ∀ (is : List SvcIn) (s : St),
    (runOps ⟨D, s⟩ (is.map .service)).2.map (·.1) = (runSvc D s is).2 ∧
    (runOps ⟨D, s⟩ (is.map .service)).1 = ⟨D, (runSvc D s is).1⟩ :=
  runOps_services D

/-- the hypotheses on the state hold in every state reached from `cat_init` in which no command is
held (descriptor hypotheses as for `C03_no_out_of_bounds`) -/
theorem C15_reachable_live (D : Desc) (buf ubuf : List Byte) (mem : List (List Byte)) (ops : List Op)
    (hok : ∀ op ∈ ops, OpOk op) (hn : 0 < D.commandsNum) (hc : 0 < D.cap) (hd : DescOk D) (hb : D.cmdCap ≤ buf.length)
    (hm : ∀ id, ∀ v ∈ (D.cmdD id).vars.getD [], v.dataSize ≤ (mem.getD v.slot []).length)
    (hh : (runOps ⟨D, init D buf ubuf mem⟩ ops).1.s.state ≠ .hold) :
    Live (runOps ⟨D, init D buf ubuf mem⟩ ops).1.D (runOps ⟨D, init D buf ubuf mem⟩ ops).1.s :=
  (runOps_noOob ops ⟨D, init D buf ubuf mem⟩ hok (init_good D buf ubuf mem hn hc hd hb hm)).2.live
    (runOps_holdCpl D buf ubuf mem ops hok) hh

/-- non-vacuity: the hypotheses of the liveness theorem are met by a concrete parser and by the
default environment of a call (no input, accepting output, handlers answering OK) -/
example : Live exDesc (init exDesc (List.replicate 16 0) [] [[0], [0, 0]]) ∧ TermIn ({} : SvcIn) := by
  constructor
  · exact exDesc_good.live (by simp [HoldCpl, init]) (by simp [init])
  · exact ⟨rfl, rfl, rfl, rfl, ⟨by decide, by decide, by decide⟩, ⟨by decide, by decide, by decide⟩, rfl, rfl, rfl, rfl⟩

/-- non-vacuity: the initial state of a parser is quiescent -/
example (D : Desc) : Quiescent (init D [] [] []) := by simp [Quiescent, init, Reading]

end Cat
