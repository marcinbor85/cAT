/-
  C08 — Read-only variables are never modified and write-only ones never disclosed.

  * `C08_ro_never_stored`: whatever the argument text (accepted, malformed, over range), parsing an
    argument for a read-only variable leaves variable storage byte-for-byte unchanged;
    `C08_only_parse_stores`: and the only other writer of variable storage in the whole library is
    this parse step (every other function has the frame property `mem` unchanged — Frame/Ctl lemmas);
  * `C08_wo_int`, `C08_wo_uint`, `C08_wo_hex`, `C08_wo_bufhex`, `C08_wo_string`: the text printed for
    a write-only variable is a constant (zero / zeros / empty string): it does not depend on the
    stored bytes at all;
  * `C08_read_gate`, `C08_write_gate`: a READ with nothing readable and no read handler, and a WRITE
    with nothing writable and no write handler, are answered with ERROR.
-/
import CatVerif.Proofs.WriteNum
import CatVerif.Proofs.Step
namespace Cat
open St Spec

/-- for a read-only variable the validators and the buffer store do nothing but set `writeSize` -/
theorem parseVarValue_ro (D : Desc) (s : St) (v : VarD) (h : v.access = .ro) :
    (parseVarValue D s v).1.mem = s.mem ∧ tr .mem (parseVarValue D s v).1.log = tr .mem s.log := by
  rw [parseVarValue_eq]
  cases v.type <;>
    simp [numStore, bufStore, h, validateIntRange, validateUIntRange, apply_ite Prod.fst, apply_ite St.mem, apply_ite St.log]

/-- Parsing any text whatsoever for a read-only variable stores nothing. -/
theorem C08_ro_never_stored (D : Desc) (s : St) (v : VarD) (h : v.access = .ro) :
    (parseVarValue D s v).1.mem = s.mem :=
  (parseVarValue_ro D s v h).1

/-- no `memWrite` event either: the ghost log of stores is unchanged -/
theorem C08_ro_no_store_event (D : Desc) (s : St) (v : VarD) (h : v.access = .ro) :
    tr .mem (parseVarValue D s v).1.log = tr .mem s.log :=
  (parseVarValue_ro D s v h).2

/-- Outside the argument parser nothing stores into variables: e.g. the whole READ/TEST formatting
path and the acknowledgement path leave storage alone. -/
theorem C08_only_parse_stores (D : Desc) (s : St) (f : Fsm) (v : VarD) :
    (formatVar D s f v).1.mem = s.mem ∧ (formatInfoType D s f v).1.mem = s.mem ∧
    (ackOk D s).mem = s.mem ∧ (ackError D s).mem = s.mem ∧ (startFormatRead D s f).mem = s.mem := by
  cases f <;> simp

theorem C08_wo_int (D : Desc) (s : St) (f : Fsm) (v : VarD) (h : v.access = .wo)
    (hs : v.dataSize = 1 ∨ v.dataSize = 2 ∨ v.dataSize = 4) :
    formatIntDecimal D s f v = printFmt D (loadUInt s v).1 f [48] := by
  unfold formatIntDecimal
  rcases hs with e | e | e <;> simp [e, h, fmtInt, decDigits]

theorem C08_wo_uint (D : Desc) (s : St) (f : Fsm) (v : VarD) (h : v.access = .wo)
    (hs : v.dataSize = 1 ∨ v.dataSize = 2 ∨ v.dataSize = 4) :
    formatUIntDecimal D s f v = printFmt D (loadUInt s v).1 f [48] := by
  unfold formatUIntDecimal
  rcases hs with e | e | e <;> simp [e, h, decDigits]

theorem C08_wo_hex (D : Desc) (s : St) (f : Fsm) (v : VarD) (h : v.access = .wo)
    (hs : v.dataSize = 1 ∨ v.dataSize = 2 ∨ v.dataSize = 4) :
    formatNumHexadecimal D s f v = printFmt D (loadUInt s v).1 f ([48, 120] ++ hexFixed (2 * v.dataSize) 0) := by
  unfold formatNumHexadecimal
  rcases hs with e | e | e <;> simp [e, h]

/-- a write-only byte buffer is printed as zeros, whatever it holds -/
theorem printHexBytes_wo (D : Desc) (f : Fsm) : ∀ (bs cs : List Byte) (s : St), bs.length = cs.length →
    printHexBytes D f true s bs = printHexBytes D f true s cs := by
  intro bs
  induction bs with
  | nil => intro cs s h; cases cs <;> simp_all
  | cons b r ih =>
    intro cs s h
    cases cs with
    | nil => simp at h
    | cons c t =>
      simp only [printHexBytes, if_true]
      split
      · exact ih t _ (by simpa using h)
      · rfl

theorem C08_wo_bufhex (D : Desc) (s : St) (f : Fsm) (v : VarD) (h : v.access = .wo) :
    formatBufferHexadecimal D s f v =
      printHexBytes D f true (s.chk (decide (v.dataSize ≤ (s.slotGet v.slot).length))) (List.replicate v.dataSize 0) := by
  unfold formatBufferHexadecimal
  simp only [h]
  apply printHexBytes_wo
  simp; omega

theorem C08_wo_string (D : Desc) (s : St) (f : Fsm) (v : VarD) (h : v.access = .wo) :
    formatBufferString D s f v = printAll D (s.chk true) f [[34], [34]] := by
  unfold formatBufferString
  simp [h, escapeStr, strlenOf]

/-- READ is refused when the command offers nothing readable and has no read handler (the name
itself fitting the buffer) -/
theorem C08_read_gate (D : Desc) (s : St) (hc : s.cmd.isSome)
    (hfit : (printAll D (s.setPos .cmd 0) .cmd [(D.cmdD s.cmd).name, [61]]).2 = true)
    (hv : varsAccessible (D.cmdD s.cmd) .ro = false) (hr : (D.cmdD s.cmd).hasRead = false) :
    (startFormatRead D s .cmd).state = .flushWait ∧ (startFormatRead D s .cmd).writeStateAfter = .reset ∧
    tr .ack (startFormatRead D s .cmd).log = tr .ack s.log ++ [.ack false] := by
  unfold startFormatRead
  simp only [St.cmdOf, setPos_frame, hc, St.chkUb, if_true] at *
  simp [hfit, hv, hr, ackError_spec, cls]

/-- WRITE is refused when the command offers nothing writable and has no write handler -/
theorem C08_write_gate (D : Desc) (s : St) (i : SvcIn) (hs : s.state = .parseCommandArgs)
    (hrd : i.rd = some 10) (hot : (D.cmdD s.cmd).onlyTest = false)
    (hv : varsAccessible (D.cmdD s.cmd) .wo = false) (hw : (D.cmdD s.cmd).hasWrite = false) :
    (commandService D s i).1.state = .flushWait ∧ (commandService D s i).1.writeStateAfter = .reset ∧
    tr .ack (commandService D s i).1.log = tr .ack s.log ++ [.ack false] ∧
    (commandService D s i).1.mem = s.mem := by
  simp [commandService, hs, parseCommandArgs, readCmdChar, hrd, hot, hv, hw, ackError_spec, cls]

end Cat
