/-
  C16 — Mutex discipline: balanced, non-nested, nothing touched without the lock.

  Every locking API function of the model is `withMutex D s lock unlock body` (the lock / body /
  unlock shape of the C functions is re-extracted from the source on every run by the
  translator, item T5).  Proved here, for every state, descriptor and callback answers:
  * `C16_lock_failure`: if `lock()` fails the call returns ERROR_MUTEX_LOCK and the state is the
    state before the call with the single event `lock` logged — nothing else happened;
  * `C16_unlock_last`: otherwise the body runs on the state after `lock`, the last logged event is
    `unlock`, and the result is ERROR_MUTEX_UNLOCK iff `unlock()` failed, else the body's result;
  * `C16_service_once` (and the same for the other five functions): the lock is taken exactly once
    and released exactly once per call, nothing in between, unless a callback itself calls the
    locking API (the library never takes it twice);
  * `C16_no_mutex`: without a mutex interface no lock/unlock event is ever logged.
  The body's own events lie between the two (the body receives the state with `lock` already
  logged and only appends; `unlock` is appended to the body's result).
-/
import CatVerif.Proofs.StepU
namespace Cat
open St

/-- the six locking API functions are lock / body / unlock -/
theorem C16_shape (D : Desc) (s : St) (i : SvcIn) (c : Nat) (t st lk ul : Int) :
    service D s i = withMutex D s i.lock i.unlock (fun s => serviceBody D s i) ∧
    catIsBusy D s lk ul = withMutex D s lk ul isBusyBody ∧
    catIsHold D s lk ul = withMutex D s lk ul isHoldBody ∧
    (catIsFull D s lk ul).1 = (withMutex D s lk ul (isFullBody D)).1 ∧
    catTrigger D s c t lk ul = withMutex D s lk ul (fun s => pushUnsolicited D s c (cmdTypeOfInt t)) ∧
    catHoldExit D s st lk ul = withMutex D s lk ul (fun s => holdExit s st) :=
  ⟨rfl, rfl, rfl, rfl, rfl, rfl⟩

/-- If locking fails the call has done nothing at all: the state is the old state with the one
event `lock` logged, the result is ERROR_MUTEX_LOCK. -/
theorem C16_lock_failure (D : Desc) (s : St) (lk ul : Int) (body : St → St × Int)
    (hm : D.hasMutex = true) (hl : lk ≠ 0) :
    withMutex D s lk ul body = (s.emit (.lock lk), Gen.CAT_STATUS_ERROR_MUTEX_LOCK) := by
  simp [withMutex, hm, hl]

/-- If locking succeeds the body runs on the state in which `lock` has been logged, `unlock` is the
last event of the call, and the result is ERROR_MUTEX_UNLOCK iff unlocking failed. -/
theorem C16_unlock_last (D : Desc) (s : St) (ul : Int) (body : St → St × Int) (hm : D.hasMutex = true) :
    (withMutex D s 0 ul body).1 = (body (s.emit (.lock 0))).1.emit (.unlock ul) ∧
    (withMutex D s 0 ul body).2 = (if ul ≠ 0 then Gen.CAT_STATUS_ERROR_MUTEX_UNLOCK else (body (s.emit (.lock 0))).2) := by
  simp [withMutex, hm]; split <;> simp_all

/-- no callback answer of this call makes API calls of its own -/
def NoNestedApi (i : SvcIn) : Prop :=
  noApi i.hu.acts = true ∧ noApi i.hc.acts = true ∧ noApi i.vu.acts = true ∧ noApi i.vc.acts = true

theorem serviceBody_mutex_quiet (D : Desc) (s : St) (i : SvcIn) (h : NoNestedApi i) :
    tr .mutex (serviceBody D s i).1.log = tr .mutex s.log := by
  unfold serviceBody
  simp only
  have a := unsolicitedEventsService_quiet .mutex (by decide) D s i (Or.inr h.2.2.1) (Or.inr h.1)
  have b := commandService_quiet .mutex (by decide) D (unsolicitedEventsService D s i).1 i (Or.inr h.2.2.2) (Or.inr h.2.1)
  rw [b, a]

/-- `cat_service` takes the lock exactly once and releases it exactly once, with no lock or unlock
in between, whenever its callbacks do not call the locking API themselves. -/
theorem C16_service_once (D : Desc) (s : St) (i : SvcIn) (hm : D.hasMutex = true) (hl : i.lock = 0)
    (h : NoNestedApi i) :
    tr .mutex (service D s i).1.log = tr .mutex s.log ++ [.lock 0, .unlock i.unlock] := by
  unfold service
  rw [hl, (C16_unlock_last D s i.unlock _ hm).1]
  simp [serviceBody_mutex_quiet D _ i h, cls]

/-- the five small locking functions: exactly one lock and one unlock -/
theorem C16_small_once (D : Desc) (s : St) (ul : Int) (body : St → St × Int) (hm : D.hasMutex = true)
    (hb : ∀ a, (body a).1.log = a.log) :
    tr .mutex (withMutex D s 0 ul body).1.log = tr .mutex s.log ++ [.lock 0, .unlock ul] := by
  rw [(C16_unlock_last D s ul body hm).1]
  simp [hb, cls]

theorem C16_queries_once (D : Desc) (s : St) (c : Nat) (t st ul : Int) (hm : D.hasMutex = true) :
    tr .mutex (catIsBusy D s 0 ul).1.log = tr .mutex s.log ++ [.lock 0, .unlock ul] ∧
    tr .mutex (catIsHold D s 0 ul).1.log = tr .mutex s.log ++ [.lock 0, .unlock ul] ∧
    tr .mutex (catIsFull D s 0 ul).1.log = tr .mutex s.log ++ [.lock 0, .unlock ul] ∧
    tr .mutex (catTrigger D s c t 0 ul).1.log = tr .mutex s.log ++ [.lock 0, .unlock ul] ∧
    tr .mutex (catHoldExit D s st 0 ul).1.log = tr .mutex s.log ++ [.lock 0, .unlock ul] := by
  refine ⟨C16_small_once D s ul _ hm (fun a => rfl), C16_small_once D s ul _ hm (fun a => rfl), ?_,
    C16_small_once D s ul _ hm (fun a => by simp), C16_small_once D s ul _ hm (fun a => by simp)⟩
  simp only [catIsFull]
  exact C16_small_once D s ul _ hm (fun a => rfl)

/-- Without a mutex interface nothing is ever locked. -/
theorem C16_no_mutex (D : Desc) (s : St) (i : SvcIn) (hm : D.hasMutex = false) (h : NoNestedApi i) :
    tr .mutex (service D s i).1.log = tr .mutex s.log := by
  unfold service withMutex
  simp [hm, serviceBody_mutex_quiet D s i h]

/-- A failed unlock is reported and does not disturb the parser: the state after the call is the
body's result with `unlock` logged, exactly as when unlocking succeeds. -/
theorem C16_unlock_failure_harmless (D : Desc) (s : St) (ul ul' : Int) (body : St → St × Int) (hm : D.hasMutex = true) :
    ({ (withMutex D s 0 ul body).1 with log := [] } : St) = { (withMutex D s 0 ul' body).1 with log := [] } := by
  rw [(C16_unlock_last D s ul body hm).1, (C16_unlock_last D s ul' body hm).1]
  rfl

/-- non-vacuity: a call on a descriptor with a mutex whose lock fails -/
example : (withMutex { (default : Desc) with hasMutex := true } default 1 0 isBusyBody).2 = Gen.CAT_STATUS_ERROR_MUTEX_LOCK := by
  decide

end Cat
