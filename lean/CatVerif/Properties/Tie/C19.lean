/-
  C19 — the tie to the source (see Properties/Tie/C01.lean).
-/
import CatVerif.Proofs.Steps.ByFsm
import CatVerif.Proofs.Steps.Format
import CatVerif.Proofs.Steps.CmdList
import CatVerif.Proofs.Steps.Leaves
namespace Cat
open St

/-- how an automatic READ / TEST response is started — cursor reset, `NAME=` printed, then the variable
list if there is one (READ: if a variable is readable), otherwise the handler or, for TEST, the
description and the end of the line; ERROR if a text does not fit or nothing can answer — is, in the
model, the text regenerated from `start_processing_format_read_args` / `..._test_args`,
`end_processing_with_ok` / `..._error` and `reset_position` of the source (translator item T12: `switch
(fsm)` as a match on the machine; the model's ghost NULL check of the command pointer is part of the template) -/
theorem C19_format_start_generated (D : Desc) (s : St) (f : Fsm) :
    startFormatRead D s f = Gen.start_processing_format_read_args D s f ∧
    startFormatTest D s f = Gen.start_processing_format_test_args D s f ∧
    endOk D s f = Gen.end_processing_with_ok D s f ∧ endError D s f = Gen.end_processing_with_error D s f ∧
    s.setPos f 0 = Gen.reset_position D s f :=
  ⟨startFormatRead_generated D s f, startFormatTest_generated D s f, endOk_generated D s f, endError_generated D s f,
   setPos_generated D s f⟩

/-- starting the command list (translator item T14) -/
theorem C19_list_start_generated (D : Desc) (s : St) : startPrintCmdList D s = Gen.start_print_cmd_list D s :=
  startPrintCmdList_generated D s

/-- how an automatic TEST response ends (line break and description if there is one; then the test
handler if there is one, else the line is sent and answered OK) and how the variable list advances
(next variable, a comma if it fits, ERROR if it does not) are the text regenerated from
`print_response_test` and `next_format_var_by_fsm` of the source (translator item T16; for the second
one the model omits the NULL check of the command pointer, which its callers have made) -/
theorem C19_format_steps_generated (D : Desc) (s : St) (f : Fsm) :
    printResponseTest D s f = Gen.print_response_test D s f ∧
    ((s.cmdOf f).isSome = true → nextFormatVar D s f = Gen.next_format_var_by_fsm D s f) :=
  ⟨printResponseTest_generated D s f, nextFormatVar_generated D s f⟩

/-- one step of the automatic TEST response is the function whose statements are re-recognised in
`format_test_args` of the source on every run (translator item T17) -/
theorem C19_format_test_step_generated (D : Desc) (s : St) (f : Fsm) :
    formatTestArgs D s f = Gen.format_test_args D s f :=
  formatTestArgs_generated D s f

/-- the command-list printer — which entry is looked at, that disabled entries are skipped, the order RUN, READ, WRITE,
TEST of the forms, the availability condition of each form, the text `AT` ++ name ++ suffix between line breaks (the
opening one only before the first line), the failure when a line does not fit, the move to the next entry and the
final OK — is the function translated statement by statement from `print_cmd_list`, `print_current_cmd_full_name`
and `cmd_list_next_cmd` of the source on every run (translator item T20) -/
theorem C19_list_printer_generated (D : Desc) (s : St) (x : List Byte) :
    printCmdList D s = Gen.print_cmd_list D s ∧ printCurrentCmdFullName D s x = Gen.print_current_cmd_full_name D s x ∧
    cmdListNextCmd D s = Gen.cmd_list_next_cmd D s :=
  ⟨printCmdList_generated D s, printCurrentCmdFullName_generated D s x, cmdListNextCmd_generated D s⟩


/-- fits-or-fails of every piece of a TEST response and of every command-list line goes through the printing primitive,
the transliteration of `print_nstring_to_buf` (translator item T22) -/
theorem C19_print_generated (D : Desc) (s : St) (f : Fsm) (x : List Byte) : printN D s f x = Gen.print_nstring_to_buf D s f x :=
  printN_generated D s f x

/-- the counters this property's theorems keep as unbounded natural numbers (`var_num`, `cmd_group_num`, `cmd_num`, `commands_num`, `index`, `position`, `index`, `position`) are `size_t`
(translator item T21, see `C01_counters_unbounded`) -/
theorem C19_counters_unbounded :
    Gen.width_cmd_var_num = 64 ∧
    Gen.width_desc_cmd_group_num = 64 ∧
    Gen.width_group_cmd_num = 64 ∧
    Gen.width_obj_commands_num = 64 ∧
    Gen.width_obj_index = 64 ∧
    Gen.width_obj_position = 64 ∧
    Gen.width_uns_index = 64 ∧
    Gen.width_uns_position = 64 := by decide

end Cat
