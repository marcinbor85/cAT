/-
  C03 — the tie to the source (see Properties/Tie/C01.lean).
-/
import CatVerif.Proofs.Steps.Leaves
namespace Cat
open St


/-- the printing primitive — refuse unless the text and its terminator fit behind the cursor, copy, advance, terminate —
is the transliteration of `print_nstring_to_buf` with `get_left_buffer_space_by_fsm`, `get_current_buffer_by_fsm` and
`move_position_by_fsm` (translator item T22; the first line of the generated text is the model's ghost check that the
`size_t` subtraction does not wrap) -/
theorem C03_print_generated (D : Desc) (s : St) (f : Fsm) (x : List Byte) : printN D s f x = Gen.print_nstring_to_buf D s f x :=
  printN_generated D s f x

/-- the counters this property's theorems keep as unbounded natural numbers (`var_num`, `buf_size`, `cmd_group_num`, `unsolicited_buf_size`, `cmd_num`, `commands_num`, `index`, `length`, `partial_cntr`, `position`, `write_size`, `index`, `position`, `unsolicited_cmd_buffer_head`, `unsolicited_cmd_buffer_items_count`, `unsolicited_cmd_buffer_tail`, `data_size`) are `size_t`
(translator item T21, see `C01_counters_unbounded`) -/
theorem C03_counters_unbounded :
    Gen.width_cmd_var_num = 64 ∧
    Gen.width_desc_buf_size = 64 ∧
    Gen.width_desc_cmd_group_num = 64 ∧
    Gen.width_desc_unsolicited_buf_size = 64 ∧
    Gen.width_group_cmd_num = 64 ∧
    Gen.width_obj_commands_num = 64 ∧
    Gen.width_obj_index = 64 ∧
    Gen.width_obj_length = 64 ∧
    Gen.width_obj_partial_cntr = 64 ∧
    Gen.width_obj_position = 64 ∧
    Gen.width_obj_write_size = 64 ∧
    Gen.width_uns_index = 64 ∧
    Gen.width_uns_position = 64 ∧
    Gen.width_uns_unsolicited_cmd_buffer_head = 64 ∧
    Gen.width_uns_unsolicited_cmd_buffer_items_count = 64 ∧
    Gen.width_uns_unsolicited_cmd_buffer_tail = 64 ∧
    Gen.width_var_data_size = 64 := by decide

end Cat
