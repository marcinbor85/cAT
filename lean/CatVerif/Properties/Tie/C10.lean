/-
  C10 — the tie to the source (see Properties/Tie/C01.lean).
-/
import CatVerif.Proofs.Steps.Loops
import CatVerif.Proofs.Steps.ByFsm
namespace Cat
open St

/-- the four handler loops are: call the handler, perform the calls the generated return-code table lists for its
answer, return BUSY — the shape re-recognised in the source on every run (translator item T19; the tables are T3) -/
theorem C10_loops_generated (D : Desc) (s : St) (f : Fsm) (i : SvcIn) :
    processWriteLoop D s i = Gen.process_write_loop_fn D s i ∧ processRunLoop D s i = Gen.process_run_loop_fn D s i ∧
    processReadLoop D s f i = Gen.process_read_loop_fn D s f i ∧ processTestLoop D s f i = Gen.process_test_loop_fn D s f i :=
  ⟨processWriteLoop_generated D s i, processRunLoop_generated D s i, processReadLoop_generated D s f i,
    processTestLoop_generated D s f i⟩

/-- what the table entries do — finish with OK or ERROR, restart the automatic text — is translated from
`end_processing_with_ok`, `end_processing_with_error`, `start_processing_format_read_args` and
`start_processing_format_test_args` of the source on every run (translator item T12) -/
theorem C10_calls_generated (D : Desc) (s : St) (f : Fsm) :
    endOk D s f = Gen.end_processing_with_ok D s f ∧ endError D s f = Gen.end_processing_with_error D s f ∧
    startFormatRead D s f = Gen.start_processing_format_read_args D s f ∧
    startFormatTest D s f = Gen.start_processing_format_test_args D s f :=
  ⟨endOk_generated D s f, endError_generated D s f, startFormatRead_generated D s f, startFormatTest_generated D s f⟩

/-- the counters this property's theorems keep as unbounded natural numbers (`position`, `position`) are `size_t`
(translator item T21, see `C01_counters_unbounded`) -/
theorem C10_counters_unbounded :
    Gen.width_obj_position = 64 ∧
    Gen.width_uns_position = 64 := by decide

end Cat
