/-
  C09 — the tie to the source (see Properties/Tie/C01.lean).
-/
import CatVerif.Proofs.Steps.Found
import CatVerif.Proofs.Steps.Resolve
import CatVerif.Proofs.Steps.Leaves
namespace Cat
open St

/-- the functions that keep disabled entries out of the match state (`update_command`), never select them
(`search_command`) and refuse test-only and handler-less requests (`command_found`) are the ones translated from the
source on every run (translator items T9, T11) -/
theorem C09_gates_generated (D : Desc) (s : St) :
    updateCommand D s = Gen.update_command D (s.chkUb (decide (s.index < D.commandsNum))) ∧
    searchCommand D s = Gen.search_command D (s.chkUb (decide (s.index < D.commandsNum))) ∧
    commandFound D s = Gen.command_found D (s.chkUb s.cmd.isSome) :=
  ⟨updateCommand_generated D s, searchCommand_generated D s, commandFound_generated D s⟩


/-- the walk over the command groups — which entry a table index names, and whether that entry or its group is disabled —
is the transliteration of `get_command_by_index` / `is_command_disable`, emitted while their bodies have the recorded form
(translator item T22) -/
theorem C09_walk_generated (D : Desc) (i : Nat) :
    cmdByIndex D.groups i = Gen.get_command_by_index D i ∧ disabledByIndex D.groups i = Gen.is_command_disable D i :=
  ⟨cmdByIndex_generated D i, disabledByIndex_generated D i⟩

/-- the counters this property's theorems keep as unbounded natural numbers (`cmd_group_num`, `cmd_num`, `commands_num`, `index`, `partial_cntr`) are `size_t`
(translator item T21, see `C01_counters_unbounded`) -/
theorem C09_counters_unbounded :
    Gen.width_desc_cmd_group_num = 64 ∧
    Gen.width_group_cmd_num = 64 ∧
    Gen.width_obj_commands_num = 64 ∧
    Gen.width_obj_index = 64 ∧
    Gen.width_obj_partial_cntr = 64 := by decide

end Cat
