/-
  C05 — the tie to the source (see Properties/Tie/C01.lean).
-/
import CatVerif.Proofs.Steps.ParseArgs
namespace Cat
open St

/-- the dispatch of an argument to the hex-buffer and string decoders is recognised in `parse_write_args` of the
source on every run (translator item T18) -/
theorem C05_dispatch_generated (D : Desc) (s : St) (i : SvcIn) : parseWriteArgs D s i = Gen.parse_write_args D s i :=
  parseWriteArgs_generated D s i

/-- the counters this property's theorems keep as unbounded natural numbers (`var_num`, `index`, `length`, `position`, `write_size`, `data_size`) are `size_t`
(translator item T21, see `C01_counters_unbounded`) -/
theorem C05_counters_unbounded :
    Gen.width_cmd_var_num = 64 ∧
    Gen.width_obj_index = 64 ∧
    Gen.width_obj_length = 64 ∧
    Gen.width_obj_position = 64 ∧
    Gen.width_obj_write_size = 64 ∧
    Gen.width_var_data_size = 64 := by decide

end Cat
