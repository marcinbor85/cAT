/-
  C07 — the tie to the source (see Properties/Tie/C01.lean).
-/
import CatVerif.Proofs.Steps.Format
namespace Cat
open St

/-- one step of the automatic READ response — the variable's read callback, the formatter chosen by the
variable's type, the advance to the next variable, then the read handler or the line is sent — is the
function whose statements are re-recognised in `format_read_args` of the source on every run
(translator item T17) -/
theorem C07_format_step_generated (D : Desc) (s : St) (f : Fsm) (i : SvcIn) :
    formatReadArgs D s f i = Gen.format_read_args D s f i :=
  formatReadArgs_generated D s f i

/-- the counters this property's theorems keep as unbounded natural numbers (`var_num`, `index`, `length`, `position`, `write_size`, `index`, `position`, `data_size`) are `size_t`
(translator item T21, see `C01_counters_unbounded`) -/
theorem C07_counters_unbounded :
    Gen.width_cmd_var_num = 64 ∧
    Gen.width_obj_index = 64 ∧
    Gen.width_obj_length = 64 ∧
    Gen.width_obj_position = 64 ∧
    Gen.width_obj_write_size = 64 ∧
    Gen.width_uns_index = 64 ∧
    Gen.width_uns_position = 64 ∧
    Gen.width_var_data_size = 64 := by decide

end Cat
