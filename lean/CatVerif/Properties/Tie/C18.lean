/-
  C18 — the tie to the source (see Properties/Tie/C01.lean).
-/
import CatVerif.Gen.Source
namespace Cat
open St

/-- the counters this property's theorems keep as unbounded natural numbers (`unsolicited_cmd_buffer_items_count`) are `size_t`
(translator item T21, see `C01_counters_unbounded`) -/
theorem C18_counters_unbounded :
    Gen.width_uns_unsolicited_cmd_buffer_items_count = 64 := by decide

end Cat
