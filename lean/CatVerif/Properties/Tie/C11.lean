/-
  C11 — the tie to the source (see Properties/Tie/C01.lean).
-/
import CatVerif.Proofs.Steps.Wait
import CatVerif.Proofs.Steps.Output
import CatVerif.Proofs.Setters.Flush
namespace Cat
open St

/-- output arbitration — a machine leaves FLUSH_IO_WRITE_WAIT only while the other one is not in
FLUSH_IO_WRITE — is, in the model, the text regenerated from `process_io_write_wait` and
`unsolicited_process_io_write_wait` of the source (translator item T9) -/
theorem C11_arbitration_generated (D : Desc) (s : St) :
    processIoWriteWait s = Gen.process_io_write_wait D s ∧
    unsolicitedProcessIoWriteWait s = Gen.unsolicited_process_io_write_wait D s :=
  ⟨processIoWriteWait_generated D s, unsolicitedProcessIoWriteWait_generated D s⟩

/-- the output steps — fetch `write_buf[position]`; at the terminator go from the opening line
break to the text, from the text to the closing line break (chosen then), from there to the
state the unit continues in; otherwise offer the byte and advance only if `io->write` took it —
are, in the model, the text regenerated from `process_io_write` and `unsolicited_process_io_write`
of the source (translator item T10; the model's ghost check and events marked in the generated text) -/
theorem C11_output_steps_generated :
    processIoWrite = Gen.process_io_write ∧ unsolicitedProcessIoWrite = Gen.unsolicited_process_io_write :=
  ⟨processIoWrite_generated, unsolicitedProcessIoWrite_generated⟩

/-- how a unit is started — the output cursor at 0, the opening line break as first source, the phase, the state to
continue in, FLUSH_IO_WRITE_WAIT as next state; for a command-list line no opening break — is translated from
`start_flush_io_buffer`, `unsolicited_start_flush_io_buffer` and `start_flush_io_buffer_raw` on every run (translator
item T7; `flushStart` is the model's ghost event) -/
theorem C11_unit_start_generated (D : Desc) (s : St) (a : After) :
    startFlush s .cmd a = (Gen.start_flush_io_buffer D s a).emit (.flushStart .cmd false) ∧
    startFlush s .uns a = (Gen.unsolicited_start_flush_io_buffer D s a).emit (.flushStart .uns false) ∧
    startFlushRaw s a = (Gen.start_flush_io_buffer_raw D s a).emit (.flushStart .cmd true) :=
  ⟨rfl, rfl, rfl⟩

/-- the counters this property's theorems keep as unbounded natural numbers (`buf_size`, `unsolicited_buf_size`, `position`, `position`) are `size_t`
(translator item T21, see `C01_counters_unbounded`) -/
theorem C11_counters_unbounded :
    Gen.width_desc_buf_size = 64 ∧
    Gen.width_desc_unsolicited_buf_size = 64 ∧
    Gen.width_obj_position = 64 ∧
    Gen.width_uns_position = 64 := by decide

end Cat
