/-
  C12 — the tie to the source (see Properties/Tie/C01.lean).
-/
import CatVerif.Proofs.Steps.ReadChar
import CatVerif.Proofs.Steps.Output
import CatVerif.Proofs.DispatchIO
namespace Cat
open St

/-- the io call sites of the source are where the model reads and writes (T6) -/
theorem C12_io_sites_generated :
    (∀ st, Reading st ↔ st ∈ Gen.readingStates) ∧ Gen.writingStates = [.flushWrite] ∧ Gen.uwritingStates = [.flushWrite] :=
  ⟨reading_generated, writing_generated.1, writing_generated.2⟩

/-- `read_cmd_char` — the only place where input is taken: a refused read returns at once and changes
nothing; an accepted byte is stored and, outside argument collection, case-folded — is, in the model,
the function whose statements are re-recognised in the source on every run (translator item T14) -/
theorem C12_read_generated : readCmdChar = Gen.read_cmd_char := readCmdChar_generated

/-- the two output steps (offer the byte, advance only when it was accepted) are the functions re-recognised in
`process_io_write` / `unsolicited_process_io_write` on every run (translator item T10) -/
theorem C12_write_generated : processIoWrite = Gen.process_io_write ∧ unsolicitedProcessIoWrite = Gen.unsolicited_process_io_write :=
  ⟨processIoWrite_generated, unsolicitedProcessIoWrite_generated⟩

end Cat
