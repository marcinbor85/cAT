/-
  C01 — the tie to the source (DESIGN.md 0.4): the model functions this property's theorems are about are the ones
  regenerated from `src/cat.c` / `cat.h` on every run, and the counters kept as natural numbers are `size_t`.
-/
import CatVerif.Proofs.Readers.Frame
import CatVerif.Proofs.Readers.Name
import CatVerif.Proofs.Steps.ReadChar
import CatVerif.Proofs.Setters.Reset
namespace Cat
open St

/-- where a line begins, where it is given up and where its LF is taken: the six reading states'
functions are the text regenerated from the source's character switches (translator item T8) -/
theorem C01_framing_generated (D : Desc) :
    errorState = Gen.error_state ∧ processIdleState = Gen.process_idle_state D ∧ parsePrefix = Gen.parse_prefix ∧
    parseCommand = Gen.parse_command :=
  ⟨errorState_generated, processIdleState_generated D, parsePrefix_generated, parseCommand_generated⟩

/-- the one place a byte is taken from the input (`read_cmd_char`: at most one byte per call, case-folded outside the
argument text) is the function re-recognised in the source on every run (translator item T14) -/
theorem C01_read_generated : readCmdChar = Gen.read_cmd_char := readCmdChar_generated

/-- the return to IDLE after an answer (`reset_state`: IDLE and `cr_flag` cleared, unless a command is held) is the
function translated from the source on every run (translator item T7) -/
theorem C01_reset_generated (D : Desc) (s : St) : resetState s = Gen.reset_state D s := resetState_generated D s

/-- the counters this property's theorems keep as unbounded natural numbers (`length`) are declared
`size_t` in `cat.h` — 64 bits on the target, so they cannot wrap on any buffer, table or line that exists; the widths
are read from the struct declarations on every run (translator item T21) -/
theorem C01_counters_unbounded :
    Gen.width_obj_length = 64 := by decide

end Cat
