/-
  C08 — the tie to the source (see Properties/Tie/C01.lean).
-/
import CatVerif.Proofs.Steps.Format
import CatVerif.Proofs.Steps.ParseArgs
import CatVerif.Proofs.Steps.Leaves
namespace Cat
open St

/-- the step that hands an argument to a variable (`parse_write_args`) and the step that formats a variable for a READ
response (`format_read_args`) — the two places where the access mode of a variable is honoured — are the functions
re-recognised in the source on every run (translator items T17, T18) -/
theorem C08_access_steps_generated (D : Desc) (s : St) (f : Fsm) (i : SvcIn) :
    parseWriteArgs D s i = Gen.parse_write_args D s i ∧ formatReadArgs D s f i = Gen.format_read_args D s f i :=
  ⟨parseWriteArgs_generated D s i, formatReadArgs_generated D s f i⟩

/-- "some variable of the command may be read / written" is the transliteration of `is_variables_access_possible`
(translator item T22) -/
theorem C08_access_test_generated (c : CmdD) (a : Access) : varsAccessible c a = Gen.is_variables_access_possible c a :=
  varsAccessible_generated c a

/-- the counters this property's theorems keep as unbounded natural numbers (`var_num`, `index`, `data_size`) are `size_t`
(translator item T21, see `C01_counters_unbounded`) -/
theorem C08_counters_unbounded :
    Gen.width_cmd_var_num = 64 ∧
    Gen.width_obj_index = 64 ∧
    Gen.width_var_data_size = 64 := by decide

end Cat
