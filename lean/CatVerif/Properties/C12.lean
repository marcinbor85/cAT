/-
  C12 — Behaviour does not depend on how input and output readiness are scheduled.

  Proved (the per-call half of the property: "a refused read or write is retried later and changes
  nothing else"):
  * `C12_read_refused`: in each of the seven states that read input, a call in which `io->read`
    delivers nothing leaves the command machine's state untouched (only the refusal is logged);
    `C12_only_readers_read`: in all other states no read is attempted at all;
  * `C12_write_refused` / `C12_write_refused_uns`: a refused `io->write` leaves the writing machine's
    state untouched, so the same byte is offered again (`C12_retry_same_byte`);
  * `C12_writers`: only a machine in FLUSH_IO_WRITE offers bytes (from C11).
  * `C12_io_sites_generated` (translator item T6): the reading states of the model are exactly the
    states whose C function begins with `if (read_cmd_char(self) == 0) return CAT_STATUS_OK;`, and
    `io->write` is called from FLUSH_IO_WRITE of either machine only — regenerated from the call
    sites in `src/cat.c` on every run.
  * `C12_refused_call_is_noop`: a whole `cat_service` call in which every io attempt is refused (the
    command machine reads nothing or its write is refused; the unsolicited machine has nothing to
    do or its write is refused) leaves the world exactly as it was, apart from the log of that call;
  * `C12_schedule_stutter` (history level, `Proofs/Stutter.lean`): such a call can be inserted into or
    removed from ANY history at ANY point: every later operation returns the same result and logs
    the same events (reads, accepted and refused writes, handler and callback invocations with
    their arguments), and the final world is the same.  By induction this extends to any number of
    refused calls: two schedules that differ only in when refusals happen produce the same
    outputs, handler invocations and final state.
  * `C12_schedule_independent` (`Proofs/Sched.lean`): **the command machine under any schedule** —
    a schedule decides call by call whether the next input byte is offered and whether the output
    accepts; handler answers constant.  Every call is either a pure refusal (nothing changes but the
    refusal is logged) or exactly the call of the eager schedule (`C12_slot_step`: input readiness is
    irrelevant outside the reading states, output readiness outside FLUSH_IO_WRITE and at a
    terminator); hence the run reaches the state of an eager run of at most as many calls, leaves the
    same input unconsumed and produces the same events other than refusals — the same bytes consumed,
    the same bytes accepted by the output, the same handler and callback invocations with the same
    arguments.  `C12_alone`: with the unsolicited machine idle and its queue empty this is the whole
    of `cat_service`.
  NOT proved in Lean: schedules while the unsolicited machine has work to do (then the interleaving
  of the two machines' steps legitimately depends on the schedule, although each machine's own
  sequence does not) — sampled by the twin-run oracles (tools/families.py, meta_C12).
-/
import CatVerif.Proofs.Quiesce
import CatVerif.Proofs.StepU
import CatVerif.Proofs.Stutter
import CatVerif.Proofs.Sched
namespace Cat
open St

theorem C12_read_refused (D : Desc) (s : St) (i : SvcIn) (hr : Reading s.state) (hi : i.rd = none) :
    commandService D s i = (s.emit (.rd none), Gen.CAT_STATUS_OK) :=
  read_refused D s i hr hi

/-- outside the reading states the command machine attempts no read -/
theorem C12_only_readers_read (D : Desc) (s : St) (i : SvcIn) (hr : ¬ Reading s.state)
    (hv : ApiFree .rd i.vc.acts) (hh : ApiFree .rd i.hc.acts) :
    tr .rd (commandService D s i).1.log = tr .rd s.log :=
  commandService_no_read D s i hr hv hh

theorem C12_write_refused (D : Desc) (s : St) (i : SvcIn) (hs : s.state = .flushWrite) (hw : i.wr = false)
    (hb : (writeByte D s .cmd).1 ≠ 0) :
    commandService D s i =
      ((s.chk (writeByte D s .cmd).2).emit (.wr .cmd (writeByte D s .cmd).1 false (unitPart s.writeState s.writeSrc)),
       Gen.CAT_STATUS_BUSY) :=
  write_refused D s i hs hw hb

theorem C12_write_refused_uns (D : Desc) (s : St) (i : SvcIn) (hs : s.ustate = .flushWrite) (hw : i.wr = false)
    (hb : (writeByte D s .uns).1 ≠ 0) :
    unsolicitedEventsService D s i =
      ((s.chk (writeByte D s .uns).2).emit (.wr .uns (writeByte D s .uns).1 false (unitPart s.uwriteState s.uwriteSrc)),
       Gen.CAT_STATUS_BUSY) :=
  write_refused_uns D s i hs hw hb

/-- after a refused write the very same byte is the next one offered -/
theorem C12_retry_same_byte (D : Desc) (s : St) (i : SvcIn) (hs : s.state = .flushWrite) (hw : i.wr = false)
    (hb : (writeByte D s .cmd).1 ≠ 0) :
    (writeByte D (commandService D s i).1 .cmd).1 = (writeByte D s .cmd).1 ∧ (commandService D s i).1.state = .flushWrite := by
  rw [write_refused D s i hs hw hb]
  simp [writeByte, hs, St.getB]

theorem C12_writers (D : Desc) (s : St) (i : SvcIn) :
    (s.state ≠ .flushWrite → tr .wrC (commandService D s i).1.log = tr .wrC s.log) ∧
    (s.ustate ≠ .flushWrite → tr .wrU (unsolicitedEventsService D s i).1.log = tr .wrU s.log) :=
  ⟨commandService_no_write D s i, unsolicitedEventsService_no_write D s i⟩

/-- a call in which every io attempt is refused changes nothing but the log of that call -/
theorem C12_refused_call_is_noop (D : Desc) (s : St) (i : SvcIn) (hu : StutterU D s i) (hc : StutterC D s i) :
    ∃ l, (serviceBody D s i).1 = { s with log := l } :=
  serviceBody_stutter D s i hu hc

/-- **Refused calls do not matter, anywhere in any history**: inserting a `cat_service` call whose io
attempts are all refused after the operations `a` changes neither the results and events of the
operations before it, nor those of the operations `b` after it, nor the final world (the log of the
last call aside). -/
theorem C12_schedule_stutter (w : World) (a b : List Op) (i : SvcIn)
    (hu : StutterU (runOps w a).1.D (runOps w a).1.s i) (hc : StutterC (runOps w a).1.D (runOps w a).1.s i) :
    (runOps w (a ++ .service i :: b)).1.D = (runOps w (a ++ b)).1.D ∧
    SameButLog (runOps w (a ++ b)).1.s (runOps w (a ++ .service i :: b)).1.s ∧
    (runOps w (a ++ .service i :: b)).2.take a.length = (runOps w (a ++ b)).2.take a.length ∧
    (runOps w (a ++ .service i :: b)).2.drop (a.length + 1) = (runOps w (a ++ b)).2.drop a.length :=
  runOps_insert_stutter w a b i hu hc

/-- non-vacuity: in the initial state a call without input is such a call -/
example (D : Desc) : StutterU D (init D [] [] []) {} ∧ StutterC D (init D [] [] []) {} :=
  ⟨Or.inl ⟨rfl, rfl⟩, Or.inl ⟨by simp [Reading, init], rfl⟩⟩

/-- non-vacuity: a writing state with a refusing output -/
example : ∃ (s : St) (i : SvcIn), s.state = .flushWrite ∧ i.wr = false ∧ (writeByte default s .cmd).1 ≠ 0 :=
  ⟨{ (default : St) with state := .flushWrite, writeSrc := .nl 1 }, { wr := false }, rfl, rfl, by decide⟩

/-- one call under a schedule: a pure refusal, or the eager schedule's call -/
theorem C12_slot_step (D : Desc) (tmpl : SvcIn) (s : St) (q : List Byte) (sl : Slot) (hs0 : s.log = []) (hf : fetchOk D s sl = true) :
    ((∃ e, isRefusal e = true ∧ (commandService D s (slotIn tmpl q sl)).1 = { s with log := [e] }) ∧
      ¬ (Reading s.state ∧ (slotIn tmpl q sl).rd.isSome)) ∨
    (commandService D s (slotIn tmpl q sl) = commandService D s (slotIn tmpl q eager) ∧
      ((Reading s.state ∧ (slotIn tmpl q sl).rd.isSome) ↔ (Reading s.state ∧ (slotIn tmpl q eager).rd.isSome))) :=
  slot_step D tmpl s q sl hs0 hf

/-- **Schedule independence of the command machine.** -/
theorem C12_schedule_independent (D : Desc) (tmpl : SvcIn) (σ : List Slot) (s : St) (q : List Byte)
    (hin : (runS D tmpl s q σ).2.2.2 = true) :
    ∃ n, n ≤ σ.length ∧
      SameButLog (runS D tmpl s q (List.replicate n eager)).1 (runS D tmpl s q σ).1 ∧
      (runS D tmpl s q (List.replicate n eager)).2.1 = (runS D tmpl s q σ).2.1 ∧
      realEvents (runS D tmpl s q (List.replicate n eager)).2.2.1 = realEvents (runS D tmpl s q σ).2.2.1 :=
  runS_eager D tmpl σ s q hin

theorem C12_alone (D : Desc) (s : St) (i : SvcIn) (hu : s.ustate = .idle) (hc : s.rcount = 0) :
    (serviceBody D s i).1 = (commandService D s i).1 :=
  serviceBody_alone D s i hu hc

/-- non-vacuity: a schedule that withholds the input once and then offers it, run on `AT` LF -/
example : (runS default {} (init default [] [] []) [65, 84, 10]
    [⟨false, true⟩, ⟨true, false⟩, ⟨true, true⟩, ⟨false, false⟩, ⟨true, true⟩]).2.2.2 = true := by decide

end Cat
