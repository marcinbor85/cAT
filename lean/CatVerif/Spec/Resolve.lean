/-
  Specification of name resolution (C02), independent of the parser: given the match state of
  every table entry (0 none, 1 proper prefix, 2 equal), which entry is selected.
-/
namespace Cat.Spec

/-- the scan: first full match wins at once; otherwise count the partial matches -/
def resolveFrom (L : Nat → Nat) : (fuel k cnt : Nat) → (last : Option Nat) → Option Nat
  | 0, _, cnt, last => if cnt = 1 then last else none
  | f + 1, k, cnt, last =>
    if L k = 2 then some k
    else if L k = 1 then resolveFrom L f (k + 1) (cnt + 1) (some k)
    else resolveFrom L f (k + 1) cnt last

/-- the entry selected among the first `n` -/
def resolve (L : Nat → Nat) (n : Nat) : Option Nat := resolveFrom L n 0 0 none

/-- `j` is the right answer: the first full match, or — there being no full match — the only
partial match -/
def Selected (L : Nat → Nat) (n j : Nat) : Prop :=
  j < n ∧ ((L j = 2 ∧ ∀ i, i < j → L i ≠ 2) ∨
           (L j = 1 ∧ (∀ i, i < n → L i ≠ 2) ∧ ∀ i, i < n → i ≠ j → L i ≠ 1))

/-- nothing may be selected: no full match, and no or several partial matches -/
def Rejected (L : Nat → Nat) (n : Nat) : Prop :=
  (∀ i, i < n → L i ≠ 2) ∧
  ((∀ i, i < n → L i ≠ 1) ∨ ∃ p q, p < n ∧ q < n ∧ p ≠ q ∧ L p = 1 ∧ L q = 1)

/-- what the scan knows after `k` entries -/
structure Acc (L : Nat → Nat) (k cnt : Nat) (last : Option Nat) : Prop where
  nofull : ∀ i, i < k → L i ≠ 2
  c0 : cnt = 0 → last = none ∧ ∀ i, i < k → L i ≠ 1
  c1 : cnt = 1 → ∃ p, last = some p ∧ p < k ∧ L p = 1 ∧ ∀ i, i < k → i ≠ p → L i ≠ 1
  c2 : cnt ≥ 2 → ∃ p q, p < k ∧ q < k ∧ p ≠ q ∧ L p = 1 ∧ L q = 1

theorem Acc.init (L : Nat → Nat) : Acc L 0 0 none :=
  ⟨by intro i h; omega, by intro _; exact ⟨rfl, by intro i h; omega⟩, by intro h; omega, by intro h; omega⟩

theorem Acc.skip (L : Nat → Nat) (k cnt : Nat) (last : Option Nat) (a : Acc L k cnt last)
    (h2 : L k ≠ 2) (h1 : L k ≠ 1) : Acc L (k + 1) cnt last := by
  constructor
  · exact Nat.forall_lt_succ_right.2 ⟨a.nofull, h2⟩
  · intro hc
    exact ⟨(a.c0 hc).1, Nat.forall_lt_succ_right.2 ⟨(a.c0 hc).2, h1⟩⟩
  · intro hc
    obtain ⟨p, hp1, hp2, hp3, hp4⟩ := a.c1 hc
    exact ⟨p, hp1, by omega, hp3, Nat.forall_lt_succ_right.2 ⟨hp4, fun _ => h1⟩⟩
  · intro hc
    obtain ⟨p, q, h⟩ := a.c2 hc
    exact ⟨p, q, by omega, by omega, h.2.2⟩

theorem Acc.partial (L : Nat → Nat) (k cnt : Nat) (last : Option Nat) (a : Acc L k cnt last)
    (h1 : L k = 1) : Acc L (k + 1) (cnt + 1) (some k) := by
  constructor
  · exact Nat.forall_lt_succ_right.2 ⟨a.nofull, by omega⟩
  · intro hc; omega
  · intro hc
    exact ⟨k, rfl, by omega, h1, fun i hi hne => (a.c0 (by omega)).2 i (by omega)⟩
  · intro hc
    by_cases hc1 : cnt = 1
    · obtain ⟨p, _, hp2, hp3, _⟩ := a.c1 hc1
      exact ⟨p, k, by omega, by omega, by omega, hp3, h1⟩
    · obtain ⟨p, q, h⟩ := a.c2 (by omega)
      exact ⟨p, q, by omega, by omega, h.2.2⟩

/-- **The scan is correct**: what it returns is the selected entry, and it returns nothing exactly
when nothing may be selected. -/
theorem resolveFrom_spec (L : Nat → Nat) : ∀ (f k cnt : Nat) (last : Option Nat), Acc L k cnt last →
    (∀ j, resolveFrom L f k cnt last = some j → Selected L (k + f) j) ∧
    (resolveFrom L f k cnt last = none → Rejected L (k + f)) := by
  intro f
  induction f with
  | zero =>
    intro k cnt last a
    simp only [resolveFrom, Nat.add_zero]
    by_cases hc : cnt = 1
    · obtain ⟨p, hp1, hp2, hp3, hp4⟩ := a.c1 hc
      rw [if_pos hc, hp1]
      exact ⟨fun j hj => by cases hj; exact ⟨hp2, .inr ⟨hp3, a.nofull, hp4⟩⟩, nofun⟩
    · rw [if_neg hc]
      refine ⟨nofun, fun _ => ⟨a.nofull, ?_⟩⟩
      by_cases hc0 : cnt = 0
      · exact .inl (a.c0 hc0).2
      · exact .inr (a.c2 (by omega))
  | succ f ih =>
    intro k cnt last a
    rw [show k + (f + 1) = (k + 1) + f by omega]
    simp only [resolveFrom]
    by_cases h2 : L k = 2
    · rw [if_pos h2]
      exact ⟨fun j hj => by cases hj; exact ⟨by omega, .inl ⟨h2, a.nofull⟩⟩, nofun⟩
    · rw [if_neg h2]
      by_cases h1 : L k = 1
      · rw [if_pos h1]; exact ih _ _ _ (a.partial L k cnt last h1)
      · rw [if_neg h1]; exact ih _ _ _ (a.skip L k cnt last h2 h1)

theorem resolve_some (L : Nat → Nat) (n j : Nat) (h : resolve L n = some j) : Selected L n j := by
  simpa using (resolveFrom_spec L n 0 0 none (Acc.init L)).1 j h

theorem resolve_none (L : Nat → Nat) (n : Nat) (h : resolve L n = none) : Rejected L n := by
  simpa using (resolveFrom_spec L n 0 0 none (Acc.init L)).2 h

/-- the two verdicts exclude one another, so `resolve` is determined by them -/
theorem selected_not_rejected (L : Nat → Nat) (n j : Nat) (hs : Selected L n j) (hr : Rejected L n) : False := by
  obtain ⟨hj, h | h⟩ := hs
  · exact hr.1 j hj h.1
  · rcases hr.2 with h0 | ⟨p, q, hp, hq, hne, lp, lq⟩
    · exact h0 j hj h.1
    · by_cases e : p = j
      · exact h.2.2 q hq (by omega) lq
      · exact h.2.2 p hp e lp

theorem selected_unique (L : Nat → Nat) (n j j' : Nat) (h : Selected L n j) (h' : Selected L n j') : j = j' := by
  obtain ⟨hj, a | a⟩ := h <;> obtain ⟨hj', b | b⟩ := h'
  · by_cases e : j < j'
    · exact absurd a.1 (b.2 j e)
    · by_cases e' : j' < j
      · exact absurd b.1 (a.2 j' e')
      · omega
  · exact absurd a.1 (b.2.1 j hj)
  · exact absurd b.1 (a.2.1 j' hj')
  · by_cases e : j = j'
    · exact e
    · exact absurd a.1 (b.2.2 j hj e)

end Cat.Spec
