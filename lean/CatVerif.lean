import CatVerif.Model.Types
import CatVerif.Gen.Source
import CatVerif.Model.Pure
import CatVerif.Model.Fsm
import CatVerif.Model.Api
import CatVerif.Proofs.Frame
import CatVerif.Proofs.Ctl
import CatVerif.Proofs.Step
import CatVerif.Proofs.StepU
import CatVerif.Proofs.Graph
import CatVerif.Proofs.GraphU
import CatVerif.Proofs.History
import CatVerif.Proofs.Inv
import CatVerif.Properties.C11
import CatVerif.Proofs.Log
import CatVerif.Proofs.Hold
import CatVerif.Properties.C16
import CatVerif.Proofs.Quiesce
import CatVerif.Properties.C14
import CatVerif.Properties.C12
import CatVerif.Properties.C15
import CatVerif.Properties.C18
import CatVerif.Spec.Num
import CatVerif.Proofs.ParseNum
import CatVerif.Proofs.Mem
import CatVerif.Proofs.WriteNum
import CatVerif.Properties.C04
import CatVerif.Properties.C08
import CatVerif.Proofs.Ring
import CatVerif.Proofs.RingInvP
import CatVerif.Spec.Resp
import CatVerif.Properties.C09
import CatVerif.Properties.C10
import CatVerif.Properties.C13
import CatVerif.Properties.C19
import CatVerif.Properties.C20
import CatVerif.Spec.Codec
import CatVerif.Proofs.ParseBuf
import CatVerif.Proofs.RoundTrip
import CatVerif.Properties.C05
import CatVerif.Properties.C07
import CatVerif.Proofs.Lock
import CatVerif.Properties.C17
import CatVerif.Proofs.Lanes
import CatVerif.Spec.Resolve
import CatVerif.Proofs.Resolve
import CatVerif.Properties.C02
import CatVerif.Proofs.Args
import CatVerif.Properties.C06
import CatVerif.Proofs.Line
import CatVerif.Proofs.Acct
import CatVerif.Proofs.LineHist
import CatVerif.Properties.C01
import CatVerif.Proofs.Region
import CatVerif.Proofs.NoFault
import CatVerif.Properties.C03
import CatVerif.Proofs.Fifo
import CatVerif.Proofs.Units
import CatVerif.Proofs.NoUb
import CatVerif.Proofs.NoUbHist
import CatVerif.Model.Measure
import CatVerif.Proofs.NoOob
import CatVerif.Proofs.LenMem
import CatVerif.Proofs.NoOobHist
import CatVerif.Proofs.UnitsHist
import CatVerif.Proofs.Live
import CatVerif.Proofs.Stutter
import CatVerif.Proofs.UnitsU
import CatVerif.Proofs.MidLine
import CatVerif.Proofs.ResolveLine
import CatVerif.Proofs.UnitsM
import CatVerif.Proofs.DispatchIO
import CatVerif.Proofs.Steps.Basic
import CatVerif.Proofs.Setters.Reset
import CatVerif.Proofs.Setters.Prepare
import CatVerif.Proofs.Setters.Flush
import CatVerif.Proofs.Setters.HoldSet
import CatVerif.Proofs.Readers.Frame
import CatVerif.Proofs.Readers.Name
import CatVerif.Proofs.Readers.Ack
import CatVerif.Proofs.Steps.Wait
import CatVerif.Proofs.Steps.Hold
import CatVerif.Proofs.Steps.Found
import CatVerif.Proofs.Steps.Output
import CatVerif.Proofs.Steps.Resolve
import CatVerif.Proofs.Steps.Collect
import CatVerif.Proofs.Steps.ByFsm
import CatVerif.Proofs.Steps.Ring
import CatVerif.Proofs.Steps.ReadChar
import CatVerif.Proofs.Steps.Lanes
import CatVerif.Proofs.Steps.Format
import CatVerif.Proofs.Steps.ParseArgs
import CatVerif.Proofs.Steps.Loops
import CatVerif.Proofs.Steps.CmdList
import CatVerif.Proofs.Steps.Leaves
import CatVerif.Proofs.Text
import CatVerif.Proofs.TextF
import CatVerif.Proofs.Rest
import CatVerif.Proofs.Sched
import CatVerif.Properties.Tie.C01
import CatVerif.Properties.Tie.C02
import CatVerif.Properties.Tie.C03
import CatVerif.Properties.Tie.C04
import CatVerif.Properties.Tie.C05
import CatVerif.Properties.Tie.C06
import CatVerif.Properties.Tie.C07
import CatVerif.Properties.Tie.C08
import CatVerif.Properties.Tie.C09
import CatVerif.Properties.Tie.C10
import CatVerif.Properties.Tie.C11
import CatVerif.Properties.Tie.C12
import CatVerif.Properties.Tie.C13
import CatVerif.Properties.Tie.C14
import CatVerif.Properties.Tie.C15
import CatVerif.Properties.Tie.C19
import CatVerif.Properties.Tie.C20
import CatVerif.Properties.Tie.C18
